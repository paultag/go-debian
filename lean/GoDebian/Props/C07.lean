/-
  C07 — the control-file reader returns, for every well-formed document in every layout,
  exactly the paragraphs of the document; what every returned paragraph satisfies on
  arbitrary input; `All` is the iteration of `Next` and always terminates.
  Property theorems only; lemmas live in GoDebian/Lemmas/Deb822Next.lean (arbitrary input)
  and GoDebian/Lemmas/Deb822Read*.lean (rendered documents).
-/
import GoDebian.Model.Deb822
import GoDebian.Spec.Deb822
import GoDebian.Lemmas.Res
import GoDebian.Lemmas.Deb822Next
import GoDebian.Lemmas.Deb822ReadNext

namespace GoDebian.Props.C07
open GoDebian GoDebian.Deb822 GoDebian.Spec.Deb822

/-! ### arbitrary input -/

/-- Whatever the input bytes, every paragraph `All` returns has a non-empty `Order`
    without duplicates whose elements are exactly the keys of `Values`. -/
theorem C07_invariant (bs : Bytes) (ps : List Paragraph) (h : all bs = .ok ps) :
    ∀ p ∈ ps, p.order ≠ [] ∧ p.order.Nodup ∧ ∀ k, k ∈ p.order ↔ (lookup k p.values).isSome :=
  Lemmas.Deb822Next.all_invariant bs ps h

/-- The hypothesis is satisfiable on input outside the image of `render`: a repeated
    field (the later value wins, the key is listed once), no white space after the colon,
    a value containing a colon, a comment between paragraphs. -/
example :
    all (Bytes.ofString "A: 1\nB:2:3\nA: 4\n#c\n\n\nC:\n x\n") =
      .ok [⟨[[65], [66]], [([65], [52]), ([66], Bytes.ofString "2:3")]⟩,
           ⟨[[67]], [([67], Bytes.ofString "x\n")]⟩] := by
  decide +kernel

/-! ### `All` and `Next` -/

/-- `All` is by definition the iteration of `Next`: both entry points see the same
    sequence of paragraphs. -/
theorem C07_all_is_iterated_next (fuel : Nat) (lines : List Bytes) (acc : List Paragraph) :
    allAux (fuel+1) lines acc = match next lines with
      | .eof => .ok acc
      | .bad => .error .err
      | .para p rest => allAux fuel rest (acc ++ [p]) :=
  Lemmas.Deb822Next.allAux_succ fuel lines acc

/-- `Next` returns strictly fewer lines than it was given … -/
theorem C07_next_consumes (lines : List Bytes) (p : Paragraph) (rest : List Bytes)
    (h : next lines = .para p rest) : rest.length < lines.length :=
  Lemmas.Deb822Next.next_consumes h

/-- … so the fuel of `All` always suffices, and no step can panic: the only outcomes are
    a list of paragraphs or an error value. -/
theorem C07_all_total (bs : Bytes) : all bs ≠ .error .fuel ∧ all bs ≠ .error .panic :=
  ⟨fun h => Err.noConfusion (Lemmas.Deb822Next.all_error h),
    fun h => Err.noConfusion (Lemmas.Deb822Next.all_error h)⟩

/-- Both remaining outcomes occur: a line without a colon and a continuation line with no
    field before it are errors. -/
example :
    all (Bytes.ofString "A: 1\n\nnocolon\n") = .error .err ∧
    all (Bytes.ofString " x\n") = .error .err ∧
    all (Bytes.ofString "\n\r\n# only a comment\n") = .ok [] := by
  decide +kernel

/-! ### well-formed documents -/

/-- Main theorem: every well-formed document, rendered in any layout the format allows
    (LF or CRLF per line, empty lines before, after and between paragraphs, comment
    lines, any of the four paddings after the colon, white space at the end of a line —
    blanks, tab, VT, FF and the Unicode white-space runes U+0085, U+00A0, U+2003, U+2028,
    U+3000 —, blank or tab as continuation marker, with or without the final line
    terminator), is read back as exactly its paragraphs, in order, with exactly the
    expected values. -/
theorem C07_read_render (d : Doc) (cs : Choices) (h : wfDoc d = true) :
    all (render d cs) = .ok (d.map expectedPara) :=
  Lemmas.Deb822ReadNext.all_read_render d cs h

/-- A well-formed two-paragraph document and a layout exercising every choice: leading
    CRLF empty line, comments before a field and before a continuation line, double-space
    and tab padding, trailing blank and tab, tab marker, an empty logical line (" ."), a
    continuation line whose text starts with a blank, two separating empty lines, an
    empty value, a value that is only continuation lines, no final line terminator. -/
example :
    let B := Bytes.ofString
    let d : Doc :=
      [[⟨B "Package", B "hello", []⟩,
        ⟨B "Description", B "short text", [B "long line", [], B " indented"]⟩],
       [⟨B "Empty", [], []⟩, ⟨B "Multi", [], [B "a"]⟩]]
    let cs : Choices := [1, 1, 1, 0, 2, 1, 0, 0, 3, 0, 1, 0, 1, 2, 0, 1, 1, 0, 0, 1, 0, 0, 0, 0,
      1, 1, 0, 0, 1, 1, 0, 0, 0, 0, 0, 0, 0, 0, 1, 0, 1]
    wfDoc d = true ∧
    render d cs = B ("\r\n# note\nPackage:  hello \nDescription:\tshort text\r\n\tlong line\t\n" ++
      "# note\r\n .\r\n  indented\n\r\n\nEmpty: \nMulti:\n a") ∧
    d.map expectedPara =
      [⟨[B "Package", B "Description"],
        [(B "Package", B "hello"), (B "Description", B "short text\nlong line\n\n indented\n")]⟩,
       ⟨[B "Empty", B "Multi"], [(B "Empty", []), (B "Multi", B "a\n")]⟩] := by
  decide +kernel

/-- Unicode white space at the end of a line is removed like a blank: the field's own line
    ends in U+2003 (EM SPACE), the continuation line "more" ends in U+00A0 (NO-BREAK SPACE)
    in front of CR LF, and the " ." line is followed by U+3000 (IDEOGRAPHIC SPACE); the
    document reads back as the expected paragraph, the empty logical line included.
    Choices: 7, 5 and 9 select those alternatives of `trailing`. -/
example :
    let B := Bytes.ofString
    let d : Doc := [[⟨B "F", B "v", [B "more", []]⟩]]
    let cs : Choices := [0, 0, 0, 7, 0, 0, 0, 5, 1, 0, 0, 9, 0, 0, 0]
    wfDoc d = true ∧
    render d cs = B "F: v" ++ [226, 128, 131] ++ B "\n more" ++ [194, 160] ++ B "\r\n ." ++
      [227, 128, 128] ++ B "\n" ∧
    d.map expectedPara = [⟨[B "F"], [(B "F", B "v\nmore\n\n")]⟩] ∧
    all (render d cs) = .ok [⟨[B "F"], [(B "F", B "v\nmore\n\n")]⟩] := by
  decide +kernel

/-- Inside the hypothesis as well (classes the independently written changes of round 7 went
    for): continuation text that begins with `#` (a comment exists in the first column only),
    text whose last character ends in the byte 0xA0 or 0x85 ("à" = C3 A0, "Å" = C3 85: white space
    as Latin-1 bytes, letters as UTF-8), bytes that are no UTF-8 at all (a Latin-1 "ö" = F6), an
    armor header line inside a value, and a continuation line of blanks only (which is an empty
    logical line written with trailing white space, not a paragraph separator). -/
example :
    let B := Bytes.ofString
    let d : Doc := [[⟨B "Changes", [], [B "  * closes:", B "#805210).", B " # not a comment", B "citt" ++ [195, 160],
        [195, 133], B "J" ++ [246] ++ B "rg", B "-----BEGIN PGP SIGNED MESSAGE-----", []]⟩, ⟨B "After", B "x", []⟩]]
    wfDoc d = true ∧
    all (B "Changes:\n   * closes:\n #805210).\n  # not a comment\n citt" ++ [195, 160] ++ B "\n " ++ [195, 133] ++
        B "\n J" ++ [246] ++ B "rg\n -----BEGIN PGP SIGNED MESSAGE-----\n .  \nAfter: x\n")
      = .ok (d.map expectedPara) ∧
    (d.map expectedPara).map (fun p => p.values.map (·.2.length)) = [[90, 1]] := by
  decide +kernel

/-- The empty document is well-formed; its renderings are runs of empty lines (here LF,
    CRLF with the final terminator dropped). -/
example : wfDoc [] = true ∧ render [] [2, 0, 1, 0, 1] = [10] ∧ render [] [] = [] := by
  decide +kernel

end GoDebian.Props.C07

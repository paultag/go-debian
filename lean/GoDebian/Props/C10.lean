/-
  C10 — typed Debian documents decode to exactly the fields written in them: the struct
  schemas regenerated from the Go source convert to the schema interpreter's schemas; a
  field value of any shape, in any of the real Debian layouts, decodes to its view; a whole
  paragraph decodes to the record holding the view of every field of the document's table
  at the struct field the table names.
  Property theorems only; lemmas live in GoDebian/Lemmas/Docs*.lean, the value model in
  GoDebian/Spec/DocsValue.lean, the field tables in GoDebian/Spec/Docs.lean, the kernel-checked
  `schemaOK` and `docFits` facts in GoDebian/Tie/Docs.lean.
-/
import GoDebian.Model.Codec
import GoDebian.Spec.Docs
import GoDebian.Spec.DocsValue
import GoDebian.Tie.Docs
import GoDebian.Lemmas.Res
import GoDebian.Lemmas.Bytes
import GoDebian.Lemmas.DocsValue
import GoDebian.Lemmas.DocsStruct
import GoDebian.Lemmas.CodecRecord
import GoDebian.Lemmas.DocsRead
import GoDebian.Model.Accessors
import GoDebian.Lemmas.Paths
import GoDebian.Lemmas.CodecPara
import GoDebian.Lemmas.DepGrammarTop

namespace GoDebian.Props.C10
open GoDebian GoDebian.Deb822 GoDebian.Codec GoDebian.Extracted.Schemas
open GoDebian.Spec.Docs GoDebian.Spec.DocsValue
open GoDebian.Lemmas.Res

/-! ### Stage 1 — the regenerated schemas convert -/

/-- The side conditions of the document theorem hold of every regenerated schema
    (`docFits`): it converts, is shorter than the decoder's fuel, has no "-" key, its required
    fields are in the table, and the strip set of every field of the table consists of
    blank, tab, CR, LF only and has newline and blank where the shape needs them. -/
theorem C10_fits_DSC : docFits dsc schema_control_DSC = true :=
  (Tie.Docs.kind_ok (by simp [Tie.Docs.docKinds])).2
theorem C10_fits_Changes : docFits changes schema_control_Changes = true :=
  (Tie.Docs.kind_ok (by simp [Tie.Docs.docKinds])).2
theorem C10_fits_SourceParagraph : docFits sourceParagraph schema_control_SourceParagraph = true :=
  (Tie.Docs.kind_ok (by simp [Tie.Docs.docKinds])).2
theorem C10_fits_BinaryParagraph : docFits binaryParagraph schema_control_BinaryParagraph = true :=
  (Tie.Docs.kind_ok (by simp [Tie.Docs.docKinds])).2
theorem C10_fits_BinaryIndex : docFits binaryIndex schema_control_BinaryIndex = true :=
  (Tie.Docs.kind_ok (by simp [Tie.Docs.docKinds])).2
theorem C10_fits_SourceIndex : docFits sourceIndex schema_control_SourceIndex = true :=
  (Tie.Docs.kind_ok (by simp [Tie.Docs.docKinds])).2
theorem C10_fits_BestChecksums : docFits bestChecksums schema_control_BestChecksums = true :=
  (Tie.Docs.kind_ok (by simp [Tie.Docs.docKinds])).2
theorem C10_fits_DebControl : docFits debControl schema_deb_Control = true :=
  (Tie.Docs.kind_ok (by simp [Tie.Docs.docKinds])).2

/-- Every struct schema regenerated from the Go source converts to an interpreter schema
    (`converts`: `(toSchema fs).isSome`, no verdict when the fact is unavailable). -/
theorem C10_converts_DSC : converts schema_control_DSC = true :=
  Lemmas.Docs.converts_of_docFits C10_fits_DSC
theorem C10_converts_Changes : converts schema_control_Changes = true :=
  Lemmas.Docs.converts_of_docFits C10_fits_Changes
theorem C10_converts_SourceParagraph : converts schema_control_SourceParagraph = true :=
  Lemmas.Docs.converts_of_docFits C10_fits_SourceParagraph
theorem C10_converts_BinaryParagraph : converts schema_control_BinaryParagraph = true :=
  Lemmas.Docs.converts_of_docFits C10_fits_BinaryParagraph
theorem C10_converts_BinaryIndex : converts schema_control_BinaryIndex = true :=
  Lemmas.Docs.converts_of_docFits C10_fits_BinaryIndex
theorem C10_converts_SourceIndex : converts schema_control_SourceIndex = true :=
  Lemmas.Docs.converts_of_docFits C10_fits_SourceIndex
theorem C10_converts_BestChecksums : converts schema_control_BestChecksums = true :=
  Lemmas.Docs.converts_of_docFits C10_fits_BestChecksums
theorem C10_converts_DebControl : converts schema_deb_Control = true :=
  Lemmas.Docs.converts_of_docFits C10_fits_DebControl

/-- what a conversion looks like, and a kind string that does not convert -/
example :
    toKind "slice:cust:SHA256FileHash" = some (.slice (.custom "SHA256FileHash")) ∧
    toKind "map[string]string" = none ∧
    (toSchema [⟨"Binaries", "Binary", "slice:str", ",", "\n\r\t ", false, false⟩]).isSome = true ∧
    (toSchema [⟨"M", "M", "map[string]string", "", "", false, false⟩]).isSome = false :=
  ⟨Lemmas.Docs.toKind_ofList _, Lemmas.Docs.toKind_ofList _, by decide +kernel, by decide +kernel⟩

/-! ### Stage 2 — one field value -/

/-- The statement as first written, without a hypothesis on the strip set.  `fieldOK` only
    asks the strip set of a folded list to *contain* blank, tab, CR and LF (`foldStrip`), and
    asks nothing of it for blank separated lists; a strip set with one more character eats
    that character off the ends of the elements. -/
def C10_decode_value_full : Prop :=
  ∀ (r : Req) (f' : Field) (f : FieldDesc) (v : DocValue) (layout : Layout),
    fieldOK r f' = true → toDesc f' = some f → shapeOf v = r.shape → wfValue v →
    decodeValue 16 f.kind f.delim f.strip .zero (valueText v layout) = .ok (view v)

/-- the witness: `Binary` of a .dsc with the strip set "\n\r\t a" and the one binary "ab",
    which decodes to "b" -/
def greedyField : Field := ⟨"Binaries", "Binary", "slice:str", ",", "\n\r\t a", false, false⟩

theorem C10_decode_value_full_false : ¬ C10_decode_value_full := by
  intro H
  have h := H ⟨"Binary", "Binaries", .commaList⟩ greedyField
    (.mk "Binaries" (Bytes.ofString "Binary") (.slice .str) (Bytes.ofString ",")
      (Bytes.ofString "\n\r\t a") false false false)
    (.commaList [[97, 98]]) [] (by decide +kernel) rfl rfl (by decide +kernel)
  have h1 := congrArg Lemmas.Docs.strsOf h
  have h2 : Lemmas.Docs.strsOf (decodeValue 16 (.slice .str) (Bytes.ofString ",")
      (Bytes.ofString "\n\r\t a") .zero (valueText (.commaList [[97, 98]]) [])) = some [[98]] := by
    decide +kernel
  have h3 : Lemmas.Docs.strsOf (.ok (view (.commaList [[97, 98]]))) = some [[97, 98]] := by
    decide +kernel
  simp only [FieldDesc.kind, FieldDesc.delim, FieldDesc.strip] at h1
  rw [h2, h3] at h1
  exact absurd h1 (by decide)

/-- MAIN (one field): a struct field that passes the table's check for a Debian field
    (`fieldOK`), converted to a descriptor, whose strip set is white space only and has the
    newline and the blank where the shape puts them (`stripFits` — true of every regenerated
    schema, `C10_fits_*`), decodes the value text of every well-formed value of the field's
    shape, in every layout, to exactly the value's view: scalars verbatim; numbers; versions,
    architectures and relationship fields as their parsed forms; comma and blank separated
    lists as their elements in order, whether on one line or folded anywhere; checksum and
    file lists as tuples tagged with the algorithm of the field. -/
theorem C10_decode_value (r : Req) (f' : Field) (f : FieldDesc) (v : DocValue) (layout : Layout)
    (hok : fieldOK r f' = true) (hd : toDesc f' = some f)
    (hstrip : stripFits r.shape f.strip = true) (hshape : shapeOf v = r.shape)
    (hwf : wfValue v) :
    decodeValue 16 f.kind f.delim f.strip .zero (valueText v layout) = .ok (view v) :=
  Lemmas.Docs.decode_fits v layout (hshape ▸ Lemmas.Docs.fits_of_fieldOK hok hd hstrip) hwf

/-- the same with the layout given by one number (its binary digits) -/
theorem C10_decode_value_nat (r : Req) (f' : Field) (f : FieldDesc) (v : DocValue) (layout : Nat)
    (hok : fieldOK r f' = true) (hd : toDesc f' = some f)
    (hstrip : stripFits r.shape f.strip = true) (hshape : shapeOf v = r.shape)
    (hwf : wfValue v) :
    decodeValue 16 f.kind f.delim f.strip .zero (valueText v (layoutOfNat layout)) = .ok (view v) :=
  C10_decode_value r f' f v (layoutOfNat layout) hok hd hstrip hshape hwf

/-- `Binary` of a .dsc: three binaries, on one line, folded after every comma with the
    field's own line empty, folded after the first only. -/
example :
    let B := Bytes.ofString
    let r : Req := ⟨"Binary", "Binaries", .commaList⟩
    let f' : Field := ⟨"Binaries", "Binary", "slice:str", ",", "\n\r\t ", false, false⟩
    let v : DocValue := .commaList [B "libfoo1", B "libfoo-dev", B "foo doc"]
    fieldOK r f' = true ∧ (toDesc f').isSome = true ∧
    stripFits r.shape (B f'.strip) = true ∧ shapeOf v = r.shape ∧ wfValue v ∧
    valueText v [] = B "libfoo1, libfoo-dev, foo doc" ∧
    valueText v [1, 1, 1] = B "libfoo1,\nlibfoo-dev,\nfoo doc\n" ∧
    valueText v [0, 1, 0] = B "libfoo1,\nlibfoo-dev, foo doc\n" ∧
    valueText v (layoutOfNat 5) = B "libfoo1, libfoo-dev,\nfoo doc\n" := by
  decide +kernel

/-- `Binary` of a .changes (blank separated, the blank as explicit delimiter) and
    `Architecture` (no delimiter, elements parsed): one line, or folded. -/
example :
    let B := Bytes.ofString
    let r : Req := ⟨"Binary", "Binaries", .spaceList⟩
    let f' : Field := ⟨"Binaries", "Binary", "slice:str", " ", "", false, false⟩
    let v : DocValue := .spaceList [B "a", B "b", B "c"]
    let r2 : Req := ⟨"Architecture", "Architectures", .archList⟩
    let f2 : Field := ⟨"Architectures", "Architecture", "slice:cust:Arch", "", "", false, false⟩
    let v2 : DocValue := .archList [(B "amd64", ⟨Dep.sGnu, Dep.sLinux, B "amd64"⟩),
      (B "linux-any", ⟨Dep.sAny, Dep.sLinux, Dep.sAny⟩)]
    fieldOK r f' = true ∧ (toDesc f').isSome = true ∧ stripFits r.shape (B f'.strip) = true ∧
    shapeOf v = r.shape ∧ wfValue v ∧
    valueText v [] = B "a b c" ∧ valueText v [0, 0, 1] = B "a b\nc\n" ∧
    fieldOK r2 f2 = true ∧ (toDesc f2).isSome = true ∧ stripFits r2.shape (B f2.strip) = true ∧
    shapeOf v2 = r2.shape ∧ wfValue v2 ∧
    valueText v2 [0, 1] = B "amd64\nlinux-any\n" := by
  decide +kernel

/-- `Checksums-Sha256` (one entry per continuation line, the field's own line empty — or
    the first entry on it, as the encoder writes) and the `Files` field of a .changes. -/
example :
    let B := Bytes.ofString
    let r : Req := ⟨"Checksums-Sha256", "ChecksumsSha256", .hashList "sha256"⟩
    let f' : Field := ⟨"ChecksumsSha256", "Checksums-Sha256", "slice:cust:SHA256FileHash", "\n",
      "\n\r\t ", false, false⟩
    let v : DocValue := .hashList "sha256" [⟨B "ab12", 1204, B "x_1.dsc"⟩, ⟨B "cd34", 3, B "x_1.tar.gz"⟩]
    let r2 : Req := ⟨"Files", "Files", .changesFiles⟩
    let f2 : Field := ⟨"Files", "Files", "slice:cust:FileListChangesFileHash", "\n", "\n\r\t ",
      false, false⟩
    let v2 : DocValue := .changesFiles [⟨B "d41d", 12, B "utils", B "optional", B "x_1_amd64.deb"⟩]
    fieldOK r f' = true ∧ (toDesc f').isSome = true ∧ stripFits r.shape (B f'.strip) = true ∧
    shapeOf v = r.shape ∧ wfValue v ∧
    valueText v [1] = B "ab12 1204 x_1.dsc\ncd34 3 x_1.tar.gz\n" ∧
    valueText v [0] = B "ab12 1204 x_1.dsc\ncd34 3 x_1.tar.gz\n" ∧
    fieldOK r2 f2 = true ∧ (toDesc f2).isSome = true ∧ stripFits r2.shape (B f2.strip) = true ∧
    shapeOf v2 = r2.shape ∧ wfValue v2 ∧
    valueText v2 [1] = B "d41d 12 utils optional x_1_amd64.deb\n" ∧
    valueText v2 [] = B "d41d 12 utils optional x_1_amd64.deb" := by
  decide +kernel

/-- a version, a number, a flag and a relationship field folded after the comma -/
example :
    let B := Bytes.ofString
    let d : Spec.Dependency.SDep :=
      [[⟨false, B "debhelper", none, some (Dep.opGE, B "9"), false, [], []⟩],
       [⟨false, B "libc6-dev", none, none, false, [B "amd64"], []⟩]]
    fieldOK ⟨"Version", "Version", .version⟩ ⟨"Version", "Version", "cust:Version", "", "", false, false⟩ = true ∧
    wfValue (.version (B "1:2.30-10") ⟨1, B "2.30", B "10"⟩) ∧
    wfValue (.int (-5)) ∧ valueText (.int (-5)) [] = B "-5" ∧
    valueText (.bool true) [] = B "yes" ∧
    fieldOK ⟨"Build-Depends", "BuildDepends", .dep⟩
      ⟨"BuildDepends", "Build-Depends", "cust:Dependency", "", "", false, false⟩ = true ∧
    wfValue (.dep d) ∧
    valueText (.dep d) [0, 0, 1, 0, 1, 0, 0, 6, 0, 1, 0, 0, 6] =
      B "debhelper (>= 9),\nlibc6-dev [amd64]\n" := by
  decide +kernel

/-! ### Stage 3 — the whole paragraph -/

/-- MAIN (document): let `spec` be the field table of a document kind, `fs` a struct schema
    that satisfies it (`schemaOK`, `Tie.Docs.schema_*`) and the side conditions `docFits`
    (`C10_fits_*`), `s` its conversion; let `m` give, for the Debian fields that are present, a
    well-formed value of the table's shape and a layout (`wfModel`), every required struct
    field being present; let the paragraph `p` carry the model (`Carries`: for every key a
    struct field claims, `p` has the model's value text when the table lists the key and the
    model has the field, and no value otherwise — in particular no key "Paragraph", the key
    of the embedded `Paragraph`, and no key of a struct field outside the table, such as
    "Filename"; any other key is allowed).  Then decoding succeeds, and the record holds, field
    by field (`fieldVal`): the paragraph itself in the embedded `Paragraph`, the view of the
    model's value in every struct field of the table that is present, the zero value in every
    other one. -/
theorem C10_decode_document (spec : List Req) (fs : List Field) (s : Schema) (m : DocModel)
    (p : Paragraph) (hok : schemaOK spec (some fs) = true) (hfits : docFits spec (some fs) = true)
    (hs : toSchema fs = some s) (hm : wfModel spec m)
    (hreq : ∀ f ∈ fs, f.required = true → (m f.key).isSome = true) (hp : Carries spec fs m p) :
    decodeStruct p s [] = .ok (fs.map (fieldVal spec m p)) :=
  Lemmas.Docs.decode_document hok hfits hs hm hreq hp

/-- … read by the rows of the table: for every Debian field of the table there is a struct
    field with the Go name the table demands, and the record holds there the view of the
    field's value — or the zero value when the document does not have the field. -/
theorem C10_document_fields (spec : List Req) (fs : List Field) (s : Schema) (m : DocModel)
    (p : Paragraph) (hok : schemaOK spec (some fs) = true) (hfits : docFits spec (some fs) = true)
    (hs : toSchema fs = some s) (hm : wfModel spec m)
    (hreq : ∀ f ∈ fs, f.required = true → (m f.key).isSome = true) (hp : Carries spec fs m p) :
    ∃ rec, decodeStruct p s [] = .ok rec ∧ rec.length = fs.length ∧
      ∀ r ∈ spec, ∃ (i : Nat) (g : Field), fs[i]? = some g ∧ g.name = r.go ∧ g.key = r.deb ∧
        rec[i]? = some (match m r.deb with | some (v, _) => view v | none => .zero) :=
  ⟨_, C10_decode_document spec fs s m p hok hfits hs hm hreq hp, by simp,
    fun _ hr => Lemmas.Docs.view_at hok hr⟩

/-- A required struct field (deb.Control: Package, Version, Architecture) that the paragraph
    does not have makes decoding fail (C09's `C09_required_missing` on the converted schema). -/
theorem C10_required_missing (fs : List Field) (s : Schema) (p : Paragraph)
    (hs : toSchema fs = some s) (g : Field) (hg : g ∈ fs) (hr : g.required = true)
    (ha : g.anonymous = false) (hk : Bytes.ofString g.key ≠ [45])
    (hmiss : lookup (Bytes.ofString g.key) p.values = none) :
    ∃ e, decodeStruct p s [] = .error e := by
  obtain ⟨f, hf, hd⟩ := Lemmas.Docs.toSchema_mem hs hg
  obtain ⟨k, _, hfe⟩ := Lemmas.Docs.toDesc_some hd
  exact Lemmas.Codec.decodeFields_required_missing p f (by rw [hfe]; exact hr)
    (by rw [hfe]; exact hk) (by rw [hfe]; exact ha) (by rw [hfe]; exact hmiss) s _ [] hf

/-- A .dsc: `Source`, a folded `Binary`, `Architecture`, `Version`, a `Build-Depends` folded
    after the comma, `Files` one per continuation line; `Format` and the other fields absent;
    a field the struct does not know (`X-Extra`) in the paragraph. -/
def dscModel : DocModel := fun k =>
  let B := Bytes.ofString
  match k with
  | "Source" => some (.scalar (B "hello") [], [])
  | "Binary" => some (.commaList [B "hello", B "hello-dev"], [1, 1])
  | "Architecture" => some (.archList [(B "any", ⟨Dep.sAny, Dep.sAny, Dep.sAny⟩)], [])
  | "Version" => some (.version (B "1:2.10-1") ⟨1, B "2.10", B "1"⟩, [])
  | "Build-Depends" => some (.dep [[⟨false, B "debhelper", none, some (Dep.opGE, B "9"), false, [], []⟩],
      [⟨false, B "gettext", none, none, false, [], []⟩]], [0, 0, 1, 0, 1, 0, 0, 6, 0, 6])
  | "Files" => some (.hashList "md5" [⟨B "d41d8cd9", 1204, B "hello_2.10-1.dsc"⟩,
      ⟨B "900150983c", 725946, B "hello_2.10.orig.tar.gz"⟩], [1])
  | _ => none

def dscParagraph : Paragraph :=
  let B := Bytes.ofString
  ⟨[B "Source", B "Binary", B "Architecture", B "Version", B "Build-Depends", B "X-Extra", B "Files"],
   [(B "Source", B "hello"), (B "Binary", B "hello,\nhello-dev\n"), (B "Architecture", B "any"),
    (B "Version", B "1:2.10-1"), (B "Build-Depends", B "debhelper (>= 9),\ngettext\n"),
    (B "X-Extra", B "kept in the embedded Paragraph"),
    (B "Files", B "d41d8cd9 1204 hello_2.10-1.dsc\n900150983c 725946 hello_2.10.orig.tar.gz\n")]⟩

/-- the model is well-formed, the paragraph carries it, nothing required is missing -/
theorem dsc_sample_ok : Lemmas.Docs.wfModelB dsc dscModel = true ∧
    (schema_control_DSC = none ∨
      (Carries dsc (schema_control_DSC.getD []) dscModel dscParagraph ∧
       ∀ f ∈ schema_control_DSC.getD [], f.required = true → (dscModel f.key).isSome = true)) := by
  -- the literals by their characters: the kernel evaluates the `ByteArray` behind
  -- `Bytes.ofString` in time quadratic in the length of the literal
  unfold dscParagraph
  dsimp only
  repeat rw [Bytes.ofString_ofList]
  decide +kernel

/-- … so the .dsc above decodes, with the Go struct definition as regenerated: -/
example (fs : List Field) (s : Schema) (h : schema_control_DSC = some fs)
    (hs : toSchema fs = some s) :
    decodeStruct dscParagraph s [] = .ok (fs.map (fieldVal dsc dscModel dscParagraph)) := by
  obtain ⟨hm, hc⟩ := dsc_sample_ok
  rw [h] at hc
  rcases hc with hc | ⟨hp, hreq⟩
  · cases hc
  · exact C10_decode_document dsc fs s dscModel dscParagraph (h ▸ Tie.Docs.schema_DSC)
      (h ▸ C10_fits_DSC) hs (Lemmas.Docs.wfModel_of_B hm) hreq hp

/-- a .deb control file without `Version`: decoding fails -/
example :
    let B := Bytes.ofString
    let p : Paragraph := ⟨[B "Package", B "Architecture"], [(B "Package", B "hello"), (B "Architecture", B "amd64")]⟩
    ∀ fs s, schema_deb_Control = some fs → toSchema fs = some s →
      ⟨"Version", "Version", "cust:Version", "", "", true, false⟩ ∈ fs →
      ∃ e, decodeStruct p s [] = .error e :=
  fun fs s _ hs hmem => C10_required_missing fs s _ hs _ hmem rfl rfl (by decide +kernel) (by decide +kernel)

/-! ### Stage 4 — from the text: composition with the reader (C07) -/

/-- `Unmarshal` of the text: a well-formed one-paragraph deb822 document (`Spec.Deb822.wfPara`),
    rendered in any physical layout C07 covers (LF / CRLF, comments, padding after the colon,
    ASCII or Unicode white space at line ends, blank or tab continuation markers, empty lines around, with or without
    the final newline), whose paragraph (`expectedPara`: every field's value as the reader
    returns it) carries the model, unmarshals to the record of the model's views. -/
theorem C10_unmarshal_rendered (spec : List Req) (fs : List Field) (s : Schema) (m : DocModel)
    (para : Spec.Deb822.Para) (cs : Spec.Deb822.Choices)
    (hok : schemaOK spec (some fs) = true) (hfits : docFits spec (some fs) = true)
    (hs : toSchema fs = some s) (hm : wfModel spec m)
    (hreq : ∀ f ∈ fs, f.required = true → (m f.key).isSome = true)
    (hwf : Spec.Deb822.wfPara para = true)
    (hp : Carries spec fs m (Spec.Deb822.expectedPara para)) :
    unmarshal s (Spec.Deb822.render [para] cs) =
      .ok (fs.map (fieldVal spec m (Spec.Deb822.expectedPara para))) := by
  rw [Lemmas.Docs.unmarshal_render s para cs hwf]
  exact C10_decode_document spec fs s m _ hok hfits hs hm hreq hp

/-- The .dsc of Stage 3 as a deb822 document: its fields are the model's values in the
    model's layouts (`fieldOf`; the relationship field, folded after the comma, is given by
    its two lines), plus the field the struct does not know. -/
def dscFields : Spec.Deb822.Para :=
  let B := Bytes.ofString
  let of (k : String) : List Spec.Deb822.Field :=
    match dscModel k with
    | some (v, l) => [fieldOf (B k) v l]
    | none => []
  of "Source" ++ of "Binary" ++ of "Architecture" ++ of "Version" ++
    [⟨B "Build-Depends", B "debhelper (>= 9),", [B "gettext"]⟩,
     ⟨B "X-Extra", B "kept in the embedded Paragraph", []⟩] ++ of "Files"

/-- it is well-formed, denotes the paragraph of Stage 3, and this is its plainest layout -/
theorem dsc_fields_ok :
    Spec.Deb822.wfPara dscFields = true ∧ Spec.Deb822.expectedPara dscFields = dscParagraph ∧
    Spec.Deb822.render [dscFields] [] = Bytes.ofString
      ("Source: hello\nBinary:\n hello,\n hello-dev\nArchitecture: any\nVersion: 1:2.10-1\n" ++
       "Build-Depends: debhelper (>= 9),\n gettext\nX-Extra: kept in the embedded Paragraph\n" ++
       "Files:\n d41d8cd9 1204 hello_2.10-1.dsc\n 900150983c 725946 hello_2.10.orig.tar.gz\n") := by
  -- the literals by their characters, as in `dsc_sample_ok`
  unfold dscParagraph
  dsimp only
  rw [Bytes.ofString_append, Bytes.ofString_append]
  repeat rw [Bytes.ofString_ofList]
  -- the paragraphs field by field: with the derived `DecidableEq Paragraph`, which casts along
  -- the first equation, the kernel compares the unevaluated fields besides evaluating them
  suffices h : _ ∧ (_ ∧ _) ∧ _ from ⟨h.1, Lemmas.Docs.paragraph_ext h.2.1.1 h.2.1.2, h.2.2⟩
  decide +kernel

/-- … so that text, and every other layout of it, unmarshals into the DSC struct as
    regenerated from the Go source -/
example (fs : List Field) (s : Schema) (h : schema_control_DSC = some fs)
    (hs : toSchema fs = some s) (cs : Spec.Deb822.Choices) :
    unmarshal s (Spec.Deb822.render [dscFields] cs) =
      .ok (fs.map (fieldVal dsc dscModel dscParagraph)) := by
  obtain ⟨hm, hc⟩ := dsc_sample_ok
  obtain ⟨hwf, hpara, _⟩ := dsc_fields_ok
  rw [h] at hc
  rcases hc with hc | ⟨hp, hreq⟩
  · cases hc
  · rw [← hpara] at hp ⊢
    exact C10_unmarshal_rendered dsc fs s dscModel dscFields cs (h ▸ Tie.Docs.schema_DSC)
      (h ▸ C10_fits_DSC) hs (Lemmas.Docs.wfModel_of_B hm) hreq hwf hp

/-! ### Accessors derived from the decoded fields

`Model/Accessors.lean` is the transliteration of the accessor methods; the `acc-*`
operations of the correspondence stream call the real methods on structs holding the same
field values.  These theorems state what each accessor returns. -/

section accessors
open GoDebian.Acc GoDebian.Lemmas.Paths

/-- `Maintainers()`: the maintainer first, then the uploaders in order -/
theorem C10_acc_maintainers (m : Bytes) (us : List Bytes) :
    (maintainers m us).head? = some m ∧ (maintainers m us).tail = us ∧
    (maintainers m us).length = us.length + 1 := by
  simp [maintainers]

/-- `HasArchAll()` holds exactly when the architecture list contains `all` -/
theorem C10_acc_hasArchAll (archs : List Dep.Arch) :
    hasArchAll archs = true ↔ (⟨Dep.sAll, Dep.sAll, Dep.sAll⟩ : Dep.Arch) ∈ archs := by
  unfold hasArchAll
  rw [List.any_eq_true]
  constructor
  · rintro ⟨a, ha, h⟩
    simp only [Bool.and_eq_true, decide_eq_true_eq] at h
    obtain ⟨⟨h1, h2⟩, h3⟩ := h
    have : a = ⟨Dep.sAll, Dep.sAll, Dep.sAll⟩ := by cases a; simp_all
    exact this ▸ ha
  · intro h
    exact ⟨_, h, by simp⟩

/-- a parsed `Architecture` field that lists the name "all" has an arch:all entry -/
theorem C10_acc_hasArchAll_of_name (names : List Bytes) (archs : List Dep.Arch)
    (hp : names.mapM Dep.parseArch = .ok archs) (h : Dep.sAll ∈ names) : hasArchAll archs = true := by
  rw [C10_acc_hasArchAll]
  induction names generalizing archs with
  | nil => simp at h
  | cons n rest ih =>
    simp only [List.mapM_cons, bind, Except.bind] at hp
    cases hn : Dep.parseArch n with
    | error e => simp [hn] at hp
    | ok a =>
      simp only [hn] at hp
      cases hr : rest.mapM Dep.parseArch with
      | error e => simp [hr] at hp
      | ok as =>
        simp only [hr, pure, Except.pure, Except.ok.injEq] at hp
        subst hp
        rcases List.mem_cons.mp h with e | hm
        · subst e
          have : Dep.parseArch Dep.sAll = .ok ⟨Dep.sAll, Dep.sAll, Dep.sAll⟩ := by decide +kernel
          rw [this] at hn
          injection hn with hn
          simp [hn]
        · exact List.mem_cons_of_mem _ (ih as hr hm)

/-- `SourcePackage()`: without a Source field the package is its own source -/
theorem C10_acc_sourcePackage_default (p : Bytes) : sourcePackage p [] = p := by
  simp [sourcePackage]

/-- a Source field that is just a name -/
theorem C10_acc_sourcePackage_name (p s : Bytes) (hs : s ≠ []) (h : 32 ∉ s) : sourcePackage p s = s := by
  have he : s.isEmpty = false := by cases s with | nil => exact absurd rfl hs | cons a t => rfl
  have hc : Str.contains s [32] = false := by
    unfold Str.contains
    rw [show Str.indexOf [32] s = Str.indexByte 32 s from rfl, Lemmas.Str.indexByte_of_not_mem h]
    rfl
  simp [sourcePackage, he, hc]

/-- a Source field of the form "name (version)": the name -/
theorem C10_acc_sourcePackage_versioned (p name rest : Bytes) (h : 32 ∉ name) :
    sourcePackage p (name ++ 32 :: rest) = name := by
  have he : (name ++ 32 :: rest).isEmpty = false := by simp
  have hc : Str.contains (name ++ 32 :: rest) [32] = true := by
    unfold Str.contains
    rw [show Str.indexOf [32] (name ++ 32 :: rest) = Str.indexByte 32 (name ++ 32 :: rest) from rfl,
      Lemmas.Str.indexByte_append rest h]
    rfl
  have hs : (Str.split [32] (name ++ 32 :: rest)).headD [] = name := by
    unfold Str.split
    have : (name ++ 32 :: rest).length + 2 = ((name ++ 32 :: rest).length + 1) + 1 := rfl
    rw [this]
    simp only [Str.splitNAux]
    rw [if_neg (by simp), Lemmas.Deb822WriteStr.cut_append rest h]
    rfl
  simp only [List.headD_eq_head?_getD] at hs
  simp [sourcePackage, he, hc, hs]

/-- `deb.Control.SourceName()`: the Source field when there is one, else the package name -/
theorem C10_acc_sourceName (p s : Bytes) :
    sourceName p s = if s = [] then p else s := by
  unfold sourceName; cases s <;> simp

/-- `BestChecksums.Checksums()`: the SHA-256 list when it has entries, else the SHA-512 list -/
theorem C10_acc_bestChecksums (a b : List Hash) :
    Acc.bestChecksums a b = if a ≠ [] then a else b := by
  unfold Acc.bestChecksums
  cases a with
  | nil => cases b <;> simp
  | cons x xs => simp

/-- and never an entry of a weaker algorithm -/
theorem C10_acc_bestChecksums_secure (a b : List Hash)
    (ha : ∀ h ∈ a, h.algorithm = Bytes.ofString "sha256") (hb : ∀ h ∈ b, h.algorithm = Bytes.ofString "sha512") :
    ∀ h ∈ Acc.bestChecksums a b, h.algorithm = Bytes.ofString "sha256" ∨ h.algorithm = Bytes.ofString "sha512" := by
  rw [C10_acc_bestChecksums]
  intro h hm
  split at hm
  · exact Or.inl (ha h hm)
  · exact Or.inr (hb h hm)

/-- `ByHashPath`: for an index at `dir/name` the by-hash location is
    `dir/by-hash/<ByHash>/<hash>` -/
theorem C10_acc_byHashPath (dir : List Bytes) (name byHash hash : Bytes)
    (hd : ∀ c ∈ dir, PlainComp c) (hn : PlainComp name) :
    byHashPath (canon (dir ++ [name])) byHash hash
      = canon dir ++ Bytes.ofString "/by-hash/" ++ byHash ++ [47] ++ hash := by
  unfold byHashPath
  rw [dir_canon_snoc hd hn]

/-- the on-demand relationship accessors: a field holding any legal rendering of a
    relationship AST gives the structure the AST denotes (via C04_parse_render) -/
theorem C10_acc_optionalDependency (p : Paragraph) (field : Bytes) (d : Spec.Dependency.SDep)
    (cs : Spec.Deb822.Choices) (h : Spec.Dependency.wfDep d = true) :
    optionalDependency (p.set field (Spec.Dependency.render d cs)) field = Spec.Dependency.denote d := by
  unfold optionalDependency
  rw [Lemmas.Codec.get_set, if_pos rfl, Lemmas.DepGrammarTop.parse_render d cs h]

/-- an absent field gives the empty dependency -/
theorem C10_acc_optionalDependency_absent (p : Paragraph) (field : Bytes)
    (h : lookup field p.values = none) : optionalDependency p field = [] := by
  unfold optionalDependency Paragraph.get
  rw [h]
  have : Dep.parse ([] : Bytes) = .ok [] := by decide +kernel
  simp [this]

/-- `AbsFiles()`: for a handle at the canonical absolute path `dir/f`, every listed plain
    name `n` becomes `dir/n`; lengths and order are kept -/
theorem C10_acc_absFiles (dir : List Bytes) (f : Bytes) (names : List Bytes)
    (hd : ∀ c ∈ dir, PlainComp c) (hf : PlainComp f) (hn : ∀ n ∈ names, PlainComp n) :
    absFiles (canon (dir ++ [f])) names = names.map (fun n => canon (dir ++ [n])) := by
  unfold absFiles
  apply List.map_congr_left
  intro n hm
  unfold absFile
  rw [dir_canon_snoc hd hf, join_canon hd (hn n hm)]

/-- whatever spelling of the path a file entry point is given (relative, with "." / ".."
    / doubled slashes, absolute), the handle's Filename is a canonical absolute path -/
theorem C10_acc_parseFileName_abs (cwd : List Bytes) (hc : ∀ c ∈ cwd, PlainComp c) (path : Bytes) :
    ∃ cs, (∀ c ∈ cs, PlainComp c) ∧ parseFileName (canon cwd) path = canon cs :=
  abs_canon hc path

/-- a plain file name relative to the working directory: `cwd/name` -/
theorem C10_acc_parseFileName_relative (cwd : List Bytes) (hc : ∀ c ∈ cwd, PlainComp c) (name : Bytes)
    (hn : PlainComp name) : parseFileName (canon cwd) name = canon (cwd ++ [name]) := by
  unfold parseFileName abs isAbs
  have : name.head? ≠ some 47 := by
    intro e
    cases name with
    | nil => simp at e
    | cons a t => simp only [List.head?_cons, Option.some.injEq] at e; exact hn.2.2.2 (by simp [e])
  simp only [this, decide_false, Bool.false_eq_true, if_false]
  exact join_canon hc hn

/-- `Changes.GetDSC()` opens `dir/n` for the first listed name `n` ending in ".dsc" -/
theorem C10_acc_getDSC (cwd dir : List Bytes) (f : Bytes) (names : List Bytes) (n : Bytes)
    (hd : ∀ c ∈ dir, PlainComp c) (hf : PlainComp f) (hn : PlainComp n)
    (hfind : names.find? (fun n => Str.hasSuffix n (Bytes.ofString ".dsc")) = some n) :
    getDSCPath (canon cwd) (canon (dir ++ [f])) names = .ok (canon (dir ++ [n])) := by
  unfold getDSCPath
  rw [hfind, dir_canon_snoc hd hf]
  simp only
  have hr : (canon dir ++ [47] ++ n).head? = some 47 := by simp [canon]
  have hj : Path.join (canon dir) n = Path.clean (canon dir ++ [47] ++ n) := by
    unfold Path.join
    have h1 : (canon dir).isEmpty = false := by simp [canon]
    have h2 : n.isEmpty = false := by cases n with | nil => exact absurd rfl hn.1 | cons a t => rfl
    simp [h1, h2]
  unfold abs isAbs
  simp only [hr, decide_true, if_true]
  rw [← hj, join_canon hd hn]

/-- /srv/incoming/foo_1.dsc listing a tarball and a diff; "incoming/x.dsc" seen from /srv -/
example :
    let B := Bytes.ofString
    absFiles (B "/srv/incoming/foo_1.dsc") [B "foo_1.tar.gz", B "foo_1.diff.gz"]
      = [B "/srv/incoming/foo_1.tar.gz", B "/srv/incoming/foo_1.diff.gz"] ∧
    parseFileName (B "/srv") (B "incoming/./x/../x.dsc") = B "/srv/incoming/x.dsc" ∧
    sourcePackage (B "libfoo1") (B "foo (1.0-1)") = B "foo" ∧
    getDSCPath (B "/") (B "/srv/incoming/foo_1_amd64.changes") [B "foo_1.tar.gz", B "foo_1.dsc"]
      = .ok (B "/srv/incoming/foo_1.dsc") := by
  decide +kernel

end accessors

end GoDebian.Props.C10

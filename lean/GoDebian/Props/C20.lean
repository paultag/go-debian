/-
  C20 — Copy / Move / Remove of a .dsc / .changes with the files it lists, over the
  abstract file system of Model/Upload.lean: listed names that are not plain file names
  and a control file that lists itself stop everything before any step; nothing outside
  the two directories is touched and only listed names change; the control file goes last,
  so its presence in the destination certifies a complete upload and a failure never
  leaves one there; removal deletes the control file last.
  Property theorems only; lemmas live in GoDebian/Lemmas/Upload.lean.
-/
import GoDebian.Model.Upload
import GoDebian.Lemmas.Upload
import GoDebian.Model.UploadPaths
import GoDebian.Lemmas.Paths

namespace GoDebian.Props.C20
open GoDebian GoDebian.Upload

/-- whatever names are listed, a name that is not a plain file name stops everything
    before any step -/
theorem C20_nonplain_noop (op : Op) (s : State) (ctl : Bytes) (names : List Bytes)
    (h : names.all plain = false) : exec op s ctl names = ⟨s, false, false⟩ :=
  Lemmas.Upload.exec_nonplain op s ctl names h

/-- "../x", "sub/x", "/abs", "..", "." and "" among otherwise fine names -/
example :
    let B := Bytes.ofString
    [[B "a.tar.gz", B "../x"], [B "sub/x"], [B "/abs"], [B ".."], [B "."], [[]]].all
      (fun names => names.all plain = false) = true ∧
    [B "a.tar.gz", B "..a", B "a b"].all plain = true := by
  decide +kernel

/-- a control file that lists itself: nothing happens -/
theorem C20_self_listing_noop (op : Op) (s : State) (ctl : Bytes) (names : List Bytes)
    (h : names.contains ctl = true) :
    (exec op s ctl names).ok = false ∧ (exec op s ctl names).state = s := by
  rw [Lemmas.Upload.exec_self_listing op s ctl names h]
  exact ⟨rfl, rfl⟩

example :
    let B := Bytes.ofString
    [B "a.tar.gz", B "a.dsc"].contains (B "a.dsc") = true ∧
    [B "a.tar.gz", B "a.dsc"].all plain = true := by
  decide +kernel

/-- nothing outside the two directories is ever touched -/
theorem C20_confined (op : Op) (s : State) (ctl : Bytes) (names : List Bytes) :
    (exec op s ctl names).state.outside = s.outside :=
  (Lemmas.Upload.exec_frame op s ctl names).1

/-- the destination kind never changes and only names among `names ++ [ctl]` change in
    either directory -/
theorem C20_only_listed (op : Op) (s : State) (ctl : Bytes) (names : List Bytes) (n : Bytes)
    (h : n ∉ names ∧ n ≠ ctl) :
    get (exec op s ctl names).state.src n = get s.src n ∧
    get (exec op s ctl names).state.dest n = get s.dest n :=
  (Lemmas.Upload.exec_frame op s ctl names).2 n h

/-- a move of two files and the control file in a directory that also holds a bystander,
    into a destination that holds another bystander: both bystanders stay -/
example :
    let B := Bytes.ofString
    let s : State := ⟨[(B "other", .file 9), (B "a.tar.gz", .file 1), (B "a.dsc", .file 2)], .dir,
      [(B "old", .dir true)], false⟩
    let o := exec .move s (B "a.dsc") [B "a.tar.gz"]
    o.ok = true ∧ get o.state.src (B "other") = some (.file 9) ∧
    get o.state.dest (B "old") = some (.dir true) ∧ o.state.outside = false ∧
    get o.state.src (B "a.dsc") = none ∧ get o.state.dest (B "a.dsc") = some (.file 2) := by
  decide +kernel

/-- control file last (copy/move): if the control file was not in the destination before
    and is there afterwards, the operation succeeded and every referenced file is there
    with the content/shape it had at the source -/
theorem C20_control_last (op : Op) (s : State) (ctl : Bytes) (names : List Bytes)
    (hop : op ≠ .remove) (h0 : get s.dest ctl = none)
    (h1 : (get (exec op s ctl names).state.dest ctl).isSome) :
    (exec op s ctl names).ok = true ∧
    ∀ n ∈ names, get (exec op s ctl names).state.dest n = get s.src n := by
  cases hok : (exec op s ctl names).ok
  · rw [(Lemmas.Upload.exec_failure op s ctl names hok).2 h0] at h1
    cases h1
  · exact ⟨rfl, fun n hn => (Lemmas.Upload.exec_success hop s ctl names hok).2 n
      (List.mem_append_left _ hn)⟩

/-- the hypotheses hold for a copy with a duplicate listed name and for a move -/
example :
    let B := Bytes.ofString
    let s : State := ⟨[(B "a.tar.gz", .file 1), (B "b.tar.gz", .file 3), (B "a.dsc", .file 2)], .dir,
      [(B "a.tar.gz", .file 7)], false⟩
    get s.dest (B "a.dsc") = none ∧
    (get (exec .copy s (B "a.dsc") [B "a.tar.gz", B "b.tar.gz", B "a.tar.gz"]).state.dest (B "a.dsc")).isSome ∧
    (get (exec .move s (B "a.dsc") [B "a.tar.gz", B "b.tar.gz"]).state.dest (B "a.dsc")).isSome := by
  decide +kernel

/-- failure leaves no control file in the destination, and for a move the control file is
    still at its source -/
theorem C20_failure (op : Op) (s : State) (ctl : Bytes) (names : List Bytes)
    (hop : op ≠ .remove) (h0 : get s.dest ctl = none) (hf : (exec op s ctl names).ok = false) :
    get (exec op s ctl names).state.dest ctl = none ∧
    (op = .move → get (exec op s ctl names).state.src ctl = get s.src ctl) :=
  ⟨(Lemmas.Upload.exec_failure op s ctl names hf).2 h0,
    fun _ => (Lemmas.Upload.exec_failure op s ctl names hf).1⟩

/-- failures at every point: a missing second file (the first one has already moved), a
    duplicate name under move, a control file that is a directory under copy (the partial
    file is removed again), a destination slot occupied by a directory, a missing
    destination, a destination that is a file -/
example :
    let B := Bytes.ofString
    let src : Dir := [(B "a.tar.gz", .file 1), (B "a.dsc", .file 2)]
    let s : State := ⟨src, .dir, [], false⟩
    let o1 := exec .move s (B "a.dsc") [B "a.tar.gz", B "b.tar.gz"]
    o1.ok = false ∧ get o1.state.dest (B "a.tar.gz") = some (.file 1) ∧ get o1.state.src (B "a.tar.gz") = none ∧
    (exec .move s (B "a.dsc") [B "a.tar.gz", B "a.tar.gz"]).ok = false ∧
    (exec .copy ⟨[(B "a.tar.gz", .file 1), (B "a.dsc", .dir false)], .dir, [], false⟩ (B "a.dsc") [B "a.tar.gz"]).ok = false ∧
    (exec .copy ⟨src, .dir, [(B "a.tar.gz", .dir false)], false⟩ (B "a.dsc") [B "a.tar.gz"]).ok = false ∧
    (exec .copy ⟨src, .missing, [], false⟩ (B "a.dsc") [B "a.tar.gz"]).ok = false ∧
    (exec .move ⟨src, .file, [], false⟩ (B "a.dsc") [B "a.tar.gz"]).ok = false := by
  decide +kernel

/-- removal deletes the control file last: if removal fails the control file is untouched -/
theorem C20_remove_last (s : State) (ctl : Bytes) (names : List Bytes)
    (hf : (exec .remove s ctl names).ok = false) :
    get (exec .remove s ctl names).state.src ctl = get s.src ctl :=
  (Lemmas.Upload.exec_failure .remove s ctl names hf).1

/-- a listed name that is a non-empty directory: the first file is gone, the control file
    is still there -/
example :
    let B := Bytes.ofString
    let s : State := ⟨[(B "a.tar.gz", .file 1), (B "b", .dir true), (B "a.dsc", .file 2)], .missing, [], false⟩
    let o := exec .remove s (B "a.dsc") [B "a.tar.gz", B "b"]
    o.ok = false ∧ get o.state.src (B "a.tar.gz") = none ∧ get o.state.src (B "a.dsc") = some (.file 2) := by
  decide +kernel

/-- success: the handle points into the destination and all files (referenced ones and the
    control file) are there, identical to the originals -/
theorem C20_success (op : Op) (s : State) (ctl : Bytes) (names : List Bytes)
    (hop : op ≠ .remove) (hs : (exec op s ctl names).ok = true) :
    (exec op s ctl names).handleDest = true ∧
    ∀ n ∈ names ++ [ctl], get (exec op s ctl names).state.dest n = get s.src n :=
  Lemmas.Upload.exec_success hop s ctl names hs

/-- success of a move that overwrites an existing destination file and moves an empty
    directory, and of a copy with a duplicate name -/
example :
    let B := Bytes.ofString
    let s : State := ⟨[(B "a.tar.gz", .file 1), (B "d", .dir false), (B "a.dsc", .file 2)], .dir,
      [(B "a.tar.gz", .file 7)], false⟩
    (exec .move s (B "a.dsc") [B "a.tar.gz", B "d"]).ok = true ∧
    (exec .copy s (B "a.dsc") [B "a.tar.gz", B "a.tar.gz"]).ok = true := by
  decide +kernel

/-- every intermediate state of the file loop: the control file is not yet in the
    destination -/
theorem C20_prefix (op : Op) (s : State) (ctl : Bytes) (names : List Bytes) (k : Nat)
    (_hop : op ≠ .remove) (h0 : get s.dest ctl = none) (hc : names.contains ctl = false)
    (_hp : names.all plain = true) :
    get (runFiles op s (names.take k)).1.dest ctl = none := by
  have hcm : ctl ∉ names := by simpa using hc
  exact ((Lemmas.Upload.runFiles_frame op s (names.take k)).2.2 ctl
    fun h => hcm (List.mem_of_mem_take h)).2.trans h0

example :
    let B := Bytes.ofString
    let s : State := ⟨[(B "a.tar.gz", .file 1), (B "b.tar.gz", .file 3), (B "a.dsc", .file 2)], .dir, [], false⟩
    let names := [B "a.tar.gz", B "b.tar.gz"]
    get s.dest (B "a.dsc") = none ∧ names.contains (B "a.dsc") = false ∧ names.all plain = true ∧
    get (runFiles .copy s (names.take 1)).1.dest (B "a.tar.gz") = some (.file 1) := by
  decide +kernel

/-! ### one handle, several operations (`execW`, `runW`) -/

/-- a step of a handle changes only the handle's own directory and the destination -/
theorem C20_seq_step_frame (op : Op) (w w' : World) (t : Nat) (ctl : Bytes) (names : List Bytes)
    (ok : Bool) (h : execW op w t ctl names = some (w', ok)) (i : Nat) (hi : i ≠ w.here) (ht : i ≠ t) :
    w'.dirs[i]? = w.dirs[i]? := by
  obtain ⟨s, d, -, -, -, rfl, -⟩ := Lemmas.Upload.execW_some h
  simp [Ne.symm hi, Ne.symm ht]

/-- where the handle is afterwards: in the destination exactly when a copy / move
    succeeded, where it was otherwise -/
theorem C20_seq_step_handle (op : Op) (w w' : World) (t : Nat) (ctl : Bytes) (names : List Bytes)
    (ok : Bool) (h : execW op w t ctl names = some (w', ok)) :
    w'.here = (if ok = true ∧ op ≠ .remove then t else w.here) := by
  obtain ⟨s, d, -, -, -, rfl, rfl⟩ := Lemmas.Upload.execW_some h
  simp [Lemmas.Upload.exec_handleDest]

/-- a successful copy / move step puts every referenced file and the control file into
    the destination as they were in the handle's directory before the step -/
theorem C20_seq_step_success (op : Op) (w w' : World) (t : Nat) (ctl : Bytes) (names : List Bytes)
    (hop : op ≠ .remove) (h : execW op w t ctl names = some (w', true)) :
    ∃ s d', w.dirs[w.here]? = some s ∧ w'.dirs[t]? = some d' ∧
      ∀ n ∈ names ++ [ctl], get d' n = get s n := by
  obtain ⟨s, d, -, hs, hd, rfl, hok⟩ := Lemmas.Upload.execW_some h
  have hlen : t < w.dirs.length := (List.getElem?_eq_some_iff.mp hd).1
  exact ⟨s, _, hs, by simp [hlen], (Lemmas.Upload.exec_success hop _ ctl names hok.symm).2⟩

/-- any sequence of operations on one handle: a directory that is neither where the handle
    starts nor the destination of any step is never changed -/
theorem C20_seq_frame (ctl : Bytes) (names : List Bytes) (ops : List (Op × Nat)) (w w' : World)
    (oks : List Bool) (h : runW ctl names w ops = some (w', oks)) (i : Nat) (hi : i ≠ w.here)
    (ht : ∀ p ∈ ops, p.2 ≠ i) : w'.dirs[i]? = w.dirs[i]? := by
  induction ops generalizing w oks with
  | nil => simp [runW] at h; rw [h.1]
  | cons p rest ih =>
    obtain ⟨op, t⟩ := p
    simp only [runW] at h
    split at h
    · cases h
    · rename_i w1 ok hstep
      split at h
      · cases h
      · rename_i w2 oks2 hrest
        injection h with h
        injection h with h1 _
        subst h1
        have hti : i ≠ t := fun e => ht (op, t) (List.mem_cons_self) e.symm
        have hhere : i ≠ w1.here := by
          rw [C20_seq_step_handle op w w1 t ctl names ok hstep]
          split
          · exact hti
          · exact hi
        rw [ih w1 oks2 hrest hhere (fun p hp => ht p (List.mem_cons_of_mem _ hp))]
        exact C20_seq_step_frame op w w1 t ctl names ok hstep i hi hti

/-- copy to a staging directory, then move on: the originals stay where they were, the
    staging directory is emptied again, the handle ends in the final directory; copy then
    remove leaves the originals alone as well -/
example :
    let B := Bytes.ofString
    let d0 : Dir := [(B "a.tar.gz", .file 1), (B "a.dsc", .file 2)]
    runW (B "a.dsc") [B "a.tar.gz"] ⟨[d0, [], []], 0⟩ [(.copy, 1), (.move, 2)]
      = some (⟨[d0, [], d0], 2⟩, [true, true]) ∧
    runW (B "a.dsc") [B "a.tar.gz"] ⟨[d0, [], []], 0⟩ [(.copy, 1), (.remove, 2)]
      = some (⟨[d0, [], []], 1⟩, [true, true]) := by
  decide +kernel

/-! ### the paths behind the names

The model above works on names inside two directories.  These theorems say which paths the
Go code builds from the handle's Filename, the destination and the listed names
(`AbsFiles`, `filepath.Base`, string concatenation), and that for the names
`checkListedFilename` lets through every one of them lies directly in the control file's
own directory or directly in the destination.  (The attempt to prove `plain n → no '/' in n`
for the previous `checkListedFilename` failed at n = "/": `filepath.Base("/") = "/"`; the Go
code moved the whole upload directory for that name.  Repaired in /repo, see
known_findings.json.) -/

open GoDebian.Lemmas.Paths in
/-- Copy / Move: for a handle whose Filename is the canonical absolute path `dir/f` and
    listed names that pass `checkListedFilename`, the k-th call reads `dir/nₖ` and writes
    `dest/nₖ`; the last one reads `dir/f` and writes `dest/f`. -/
theorem C20_paths_plan (dir : List Bytes) (f dest : Bytes) (names : List Bytes)
    (hd : ∀ c ∈ dir, PlainComp c) (hf : PlainComp f) (hn : names.all plain = true) :
    planPaths (canon (dir ++ [f])) dest names =
      names.map (fun n => (canon (dir ++ [n]), dest ++ [47] ++ n)) ++ [(canon (dir ++ [f]), dest ++ [47] ++ f)] := by
  unfold planPaths
  rw [base_canon_snoc dir hf]
  congr 1
  apply List.map_congr_left
  intro n hm
  have hp : PlainComp n := plain_PlainComp (List.all_eq_true.mp hn n hm)
  have hsrc : Acc.absFile (canon (dir ++ [f])) n = canon (dir ++ [n]) := by
    unfold Acc.absFile
    rw [dir_canon_snoc hd hf, join_canon hd hp]
  rw [hsrc, base_canon_snoc dir hp]

open GoDebian.Lemmas.Paths in
/-- every source path of the plan lies directly in the control file's directory, every
    destination path is the destination directory plus a plain name -/
theorem C20_paths_confined (dir : List Bytes) (f dest : Bytes) (names : List Bytes)
    (hd : ∀ c ∈ dir, PlainComp c) (hf : PlainComp f) (hn : names.all plain = true) :
    ∀ sd ∈ planPaths (canon (dir ++ [f])) dest names,
      Path.dir sd.1 = Path.dir (canon (dir ++ [f])) ∧
      ∃ n, PlainComp n ∧ sd.1 = canon (dir ++ [n]) ∧ sd.2 = dest ++ [47] ++ n := by
  rw [C20_paths_plan dir f dest names hd hf hn]
  intro sd hm
  rw [dir_canon_snoc hd hf]
  rcases List.mem_append.mp hm with hm | hm
  · obtain ⟨n, hnm, rfl⟩ := List.mem_map.mp hm
    have hp : PlainComp n := plain_PlainComp (List.all_eq_true.mp hn n hnm)
    exact ⟨dir_canon_snoc hd hp, n, hp, rfl, rfl⟩
  · simp only [List.mem_singleton] at hm
    subst hm
    exact ⟨dir_canon_snoc hd hf, f, hf, rfl, rfl⟩

open GoDebian.Lemmas.Paths in
/-- Remove deletes `dir/n` for every listed name and `dir/f` last -/
theorem C20_paths_remove (dir : List Bytes) (f : Bytes) (names : List Bytes)
    (hd : ∀ c ∈ dir, PlainComp c) (hf : PlainComp f) (hn : names.all plain = true) :
    removePaths (canon (dir ++ [f])) names = names.map (fun n => canon (dir ++ [n])) ++ [canon (dir ++ [f])] := by
  unfold removePaths
  congr 1
  apply List.map_congr_left
  intro n hm
  have hp : PlainComp n := plain_PlainComp (List.all_eq_true.mp hn n hm)
  unfold Acc.absFile
  rw [dir_canon_snoc hd hf, join_canon hd hp]

open GoDebian.Lemmas.Paths in
/-- after a successful Copy / Move the handle's Filename is `dest/f` -/
theorem C20_paths_handle (dir : List Bytes) (f dest : Bytes) (hf : PlainComp f) :
    newFilename (canon (dir ++ [f])) dest = dest ++ [47] ++ f := by
  unfold newFilename; rw [base_canon_snoc dir hf]

open GoDebian.Lemmas.Paths in
/-- `checkListedFilename` accepts exactly the plain components -/
theorem C20_plain_iff (n : Bytes) : plain n = true ↔ PlainComp n :=
  ⟨plain_PlainComp, PlainComp_plain⟩

/-- "/", "//", "a/", "/etc/passwd", "../x", "", ".", ".." are refused; "foo_1.0.tar.gz" is plain -/
example :
    let B := Bytes.ofString
    [B "/", B "//", B "a/", B "/etc/passwd", B "../x", B "", B ".", B ".."].all (fun n => !plain n) = true ∧
    plain (B "foo_1.0.tar.gz") = true := by
  decide +kernel

/-- the plan of a .dsc in /srv/incoming with two files, copied to /srv/queue -/
example :
    let B := Bytes.ofString
    planPaths (B "/srv/incoming/a_1.dsc") (B "/srv/queue") [B "a_1.tar.gz", B "a_1.diff.gz"] =
      [(B "/srv/incoming/a_1.tar.gz", B "/srv/queue/a_1.tar.gz"), (B "/srv/incoming/a_1.diff.gz", B "/srv/queue/a_1.diff.gz"),
       (B "/srv/incoming/a_1.dsc", B "/srv/queue/a_1.dsc")] := by
  decide +kernel

end GoDebian.Props.C20

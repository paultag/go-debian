/-
  C10 tie: the struct definitions of the typed documents, regenerated from the Go source on
  every run, satisfy the Debian field tables (every field lands in the expected struct
  field with a kind, delimiter and strip set that decodes its real layout; checksum fields
  use the hash type of their own algorithm) and the side conditions of the document theorem
  (`docFits`).  Checked by the kernel against the schemas as regenerated: all eight kinds in
  the one evaluation `docKinds_ok`, of which the `schema_*` are projections.
-/
import GoDebian.Spec.DocsValue

namespace GoDebian.Tie.Docs
open GoDebian.Spec.Docs GoDebian.Extracted.Schemas
open GoDebian.Spec.DocsValue (docFits)

/-- the typed documents: each field table with the struct schema regenerated for it -/
def docKinds : List (List Req × Option (List Field)) :=
  [(dsc, schema_control_DSC), (changes, schema_control_Changes),
   (sourceParagraph, schema_control_SourceParagraph),
   (binaryParagraph, schema_control_BinaryParagraph), (binaryIndex, schema_control_BinaryIndex),
   (sourceIndex, schema_control_SourceIndex), (bestChecksums, schema_control_BestChecksums),
   (debControl, schema_deb_Control)]

/-- One evaluation for all kinds and both facts: most of the kernel's work is converting the
    string literals of tables and schemas, the kinds share most of them, and the kernel
    converts each distinct literal once per theorem. -/
theorem docKinds_ok : docKinds.all (fun k => schemaOK k.1 k.2 && docFits k.1 k.2) = true := by
  decide +kernel

theorem kind_ok {spec : List Req} {schema : Option (List Field)} (h : (spec, schema) ∈ docKinds) :
    schemaOK spec schema = true ∧ docFits spec schema = true :=
  Bool.and_eq_true_iff.mp (List.all_eq_true.mp docKinds_ok _ h)

theorem schema_DSC : schemaOK dsc schema_control_DSC = true := (kind_ok (by simp [docKinds])).1
theorem schema_Changes : schemaOK changes schema_control_Changes = true := (kind_ok (by simp [docKinds])).1
theorem schema_SourceParagraph : schemaOK sourceParagraph schema_control_SourceParagraph = true := (kind_ok (by simp [docKinds])).1
theorem schema_BinaryParagraph : schemaOK binaryParagraph schema_control_BinaryParagraph = true := (kind_ok (by simp [docKinds])).1
theorem schema_BinaryIndex : schemaOK binaryIndex schema_control_BinaryIndex = true := (kind_ok (by simp [docKinds])).1
theorem schema_SourceIndex : schemaOK sourceIndex schema_control_SourceIndex = true := (kind_ok (by simp [docKinds])).1
theorem schema_BestChecksums : schemaOK bestChecksums schema_control_BestChecksums = true := (kind_ok (by simp [docKinds])).1
theorem schema_DebControl : schemaOK debControl schema_deb_Control = true := (kind_ok (by simp [docKinds])).1

/-- the .deb control schema marks exactly Package, Version, Architecture as required -/
theorem debControl_required :
    schema_deb_Control = none ∨
    ((schema_deb_Control.getD []).filter (·.required)).map (·.key) = debControlRequired := by decide +kernel

end GoDebian.Tie.Docs

/-
  C09 lemmas on single values.  Scalars, lists and fields are lawful in one shape, the one
  `wfCustom` asks of the custom types: the value renders, renders empty only if it is the
  zero value, and what is stored for it decodes back to it.
-/
import GoDebian.Model.Codec
import GoDebian.Spec.Codec
import GoDebian.Lemmas.CodecStr
import GoDebian.Lemmas.ChangelogStr

namespace GoDebian.Lemmas.Codec
open GoDebian GoDebian.Deb822 GoDebian.Codec

/-! ### collecting results -/

/-- `mapM` for `Res`, by plain recursion -/
def mapRes {α β : Type} (g : α → Res β) : List α → Res (List β)
  | [] => .ok []
  | a :: l =>
    match g a with
    | .error e => .error e
    | .ok b =>
      match mapRes g l with
      | .error e => .error e
      | .ok bs => .ok (b :: bs)

theorem mapRes_cons_error {α β : Type} {g : α → Res β} {a : α} {e : Err} (h : g a = .error e)
    (l : List α) : mapRes g (a :: l) = .error e := by
  simp [mapRes, h]

theorem mapRes_cons_ok {α β : Type} {g : α → Res β} {a : α} {b : β} (h : g a = .ok b)
    (l : List α) : mapRes g (a :: l) = (mapRes g l).map (fun bs => b :: bs) := by
  simp only [mapRes, h]
  cases mapRes g l <;> rfl

/-- the collecting loops of the model (`acc ++ [b]` under `foldlM`) are `mapRes` -/
theorem foldlM_collect {α β : Type} (g : α → Res β) (l : List α) (init : List β) :
    l.foldlM (fun acc v => (g v).map (fun b => acc ++ [b])) init =
      (mapRes g l).map (fun bs => init ++ bs) := by
  induction l generalizing init with
  | nil => simp [mapRes, Except.map, pure, Except.pure]
  | cons a l ih =>
    rw [List.foldlM_cons]
    cases h : g a with
    | error e => rw [mapRes_cons_error h]; rfl
    | ok b =>
      rw [mapRes_cons_ok h]
      show l.foldlM _ (init ++ [b]) = _
      rw [ih]
      cases mapRes g l <;> simp [Except.map]

theorem mapRes_error {α β : Type} {g : α → Res β} {l : List α} {e : Err}
    (h : mapRes g l = .error e) : ∃ a ∈ l, g a = .error e := by
  induction l with
  | nil => simp [mapRes] at h
  | cons a l ih =>
    cases ha : g a with
    | error e' =>
      rw [mapRes_cons_error ha] at h
      exact ⟨a, List.mem_cons_self, by cases h; exact ha⟩
    | ok b =>
      rw [mapRes_cons_ok ha] at h
      cases hl : mapRes g l with
      | error e' =>
        rw [hl] at h
        obtain ⟨x, hx, hg⟩ := ih (by rw [hl]; exact h)
        exact ⟨x, List.mem_cons_of_mem _ hx, hg⟩
      | ok bs => rw [hl] at h; cases h

/-- two lists related position by position -/
inductive All₂ {α β : Type} (R : α → β → Prop) : List α → List β → Prop
  | nil : All₂ R [] []
  | cons {a b l bs} : R a b → All₂ R l bs → All₂ R (a :: l) (b :: bs)

theorem mapRes_ok {α β : Type} {g : α → Res β} {l : List α} {bs : List β}
    (h : mapRes g l = .ok bs) : All₂ (fun a b => g a = .ok b) l bs := by
  induction l generalizing bs with
  | nil => simp [mapRes] at h; subst h; exact .nil
  | cons a l ih =>
    cases ha : g a with
    | error e' => rw [mapRes_cons_error ha] at h; cases h
    | ok b =>
      rw [mapRes_cons_ok ha] at h
      cases hl : mapRes g l with
      | error e' => rw [hl] at h; cases h
      | ok bs' =>
        rw [hl] at h
        cases h
        exact .cons ha (ih hl)

theorem mapRes_of_all₂ {α β : Type} {g : α → Res β} {l : List α} {bs : List β}
    (h : All₂ (fun a b => g a = .ok b) l bs) : mapRes g l = .ok bs := by
  induction h with
  | nil => rfl
  | cons ha _ ih => rw [mapRes_cons_ok ha, ih]; rfl

theorem all₂_mem_left {α β : Type} {R : α → β → Prop} {l : List α} {bs : List β}
    (h : All₂ R l bs) {a : α} (ha : a ∈ l) : ∃ b ∈ bs, R a b := by
  induction h with
  | nil => cases ha
  | cons hr _ ih =>
    rcases List.mem_cons.mp ha with rfl | ha
    · exact ⟨_, List.mem_cons_self, hr⟩
    · obtain ⟨b, hb, hr'⟩ := ih ha
      exact ⟨b, List.mem_cons_of_mem _ hb, hr'⟩

theorem all₂_mem_right {α β : Type} {R : α → β → Prop} {l : List α} {bs : List β}
    (h : All₂ R l bs) {b : β} (hb : b ∈ bs) : ∃ a ∈ l, R a b := by
  induction h with
  | nil => cases hb
  | cons hr _ ih =>
    rcases List.mem_cons.mp hb with rfl | hb
    · exact ⟨_, List.mem_cons_self, hr⟩
    · obtain ⟨a, ha, hr'⟩ := ih hb
      exact ⟨a, List.mem_cons_of_mem _ ha, hr'⟩

open GoDebian.Spec.Codec
open GoDebian.Lemmas.Changelog (HeadOK LastOK trimSet_of_ends trimSet_cons_mem joinWith_ends)

/-! ### `marshalValue` -/

theorem encodeCustom_error {typ : String} {c : Custom} {e : Err}
    (h : encodeCustom typ c = .error e) : e = .err := by
  unfold encodeCustom at h
  split at h <;> cases h
  rfl

/-- `marshalValue` on a slice kind: render every element, join -/
theorem marshalValue_slice (n : Nat) (elem : Kind) (delim : Bytes) (vs : List Val) :
    marshalValue (n+1) (.slice elem) delim (.list vs) =
      (mapRes (fun v => marshalValue n elem delim v) vs).map (Str.joinWith (delimOf delim)) := by
  rw [marshalValue]
  simp only [foldlM_collect]
  cases mapRes (fun v => marshalValue n elem delim v) vs <;> rfl

/-- an error of `marshalValue` is `.err`, or `.fuel` when the kind is nested too deep -/
theorem marshalValue_error (n : Nat) (k : Kind) (delim : Bytes) (v : Val) (e : Err)
    (h : marshalValue n k delim v = .error e) :
    e = .err ∨ (e = .fuel ∧ n ≤ kindDepth k) := by
  induction n generalizing k v with
  | zero =>
    rw [marshalValue] at h
    cases h
    exact Or.inr ⟨rfl, Nat.zero_le _⟩
  | succ n ih =>
    -- the sixteen alternatives of the definition: most are an `.ok` (impossible), the literal
    -- `.err`, or an error of `encodeCustom`; the zero custom value and the list remain
    unfold marshalValue at h
    split at h
    all_goals first
      | (cases h; done)
      | (cases h; exact Or.inl rfl)
      | exact Or.inl (encodeCustom_error h)
      | skip
    · split at h
      · exact Or.inl (encodeCustom_error h)
      · cases h; exact Or.inl rfl
    · rename_i elem vs
      simp only [foldlM_collect] at h
      cases hm : mapRes (fun v => marshalValue n elem delim v) vs with
      | ok ds => rw [hm] at h; cases h
      | error e' =>
        rw [hm] at h
        cases h
        obtain ⟨x, _, hx⟩ := mapRes_error hm
        rcases ih elem x hx with h1 | ⟨h1, h2⟩
        · exact Or.inl h1
        · exact Or.inr ⟨h1, by simp only [kindDepth]; omega⟩

theorem marshalValue_ne_panic (n : Nat) (k : Kind) (delim : Bytes) (v : Val) :
    marshalValue n k delim v ≠ .error .panic := by
  intro h
  rcases marshalValue_error n k delim v _ h with h1 | ⟨h1, _⟩ <;> cases h1

theorem marshalValue_ne_fuel {n : Nat} {k : Kind} (hd : kindDepth k < n) (delim : Bytes) (v : Val) :
    marshalValue n k delim v ≠ .error .fuel := by
  intro h
  rcases marshalValue_error n k delim v _ h with h1 | ⟨_, h2⟩
  · cases h1
  · omega

/-! ### `decodeValue`, kind by kind (any fuel, any previous content) -/

theorem decodeValue_str (n : Nat) (delim strip : Bytes) (old : Val) (value : Bytes) :
    decodeValue (n+1) .str delim strip old value = .ok (.str value) := by
  rw [decodeValue]

theorem decodeValue_bool (n : Nat) (delim strip : Bytes) (old : Val) (value : Bytes) :
    decodeValue (n+1) .bool delim strip old value = .ok (.bool (value = [121, 101, 115])) := by
  rw [decodeValue]

theorem decodeValue_custom (n : Nat) (typ : String) (delim strip : Bytes) (old : Val)
    (value : Bytes) :
    decodeValue (n+1) (.custom typ) delim strip old value = (decodeCustom typ value).map .custom := by
  rw [decodeValue]

theorem decodeValue_int_fmtInt (n : Nat) (delim strip : Bytes) (old : Val) {i : Int}
    (h1 : -(2^63 : Int) ≤ i) (h2 : i < 2^63) :
    decodeValue (n+1) .int delim strip old (Str.fmtInt i) = .ok (.int i) := by
  rw [decodeValue]
  simp only [List.isEmpty_iff, fmtInt_ne_nil i, if_false, parseInt64_fmtInt h1 h2]

theorem decodeValue_uint_fmtNat (n : Nat) (delim strip : Bytes) (old : Val) {u : Nat}
    (h : u < 2^64) :
    decodeValue (n+1) .uint delim strip old (Str.fmtNat u) = .ok (.uint u) := by
  rw [decodeValue]
  simp only [List.isEmpty_iff, Lemmas.Str.fmtNat_ne_nil u, if_false, fmtNat_all_digits, if_true,
    Lemmas.Str.digitsVal_fmtNat, h]

theorem decodeValue_slice (n : Nat) (e : Kind) (delim strip value : Bytes)
    (hne : Str.trimSet strip value ≠ []) :
    decodeValue (n+1) (.slice e) delim strip .zero value =
      (mapRes (fun el => decodeValue n e delim strip .zero (Str.trimSet strip el))
        (if delimOf delim = [32] then Str.fields (Str.trimSet strip value)
         else Str.split (delimOf delim) (Str.trimSet strip value))).map .list := by
  rw [decodeValue.eq_def]
  simp only [List.isEmpty_eq_false_iff.mpr hne, Bool.false_eq_true, if_false, foldlM_collect]
  have key : ∀ X : Res (List Val),
      Except.map Val.list (Except.map (fun bs => [] ++ bs) X) = Except.map Val.list X := by
    intro X; cases X <;> rfl
  exact key _

theorem decodeValue_slice_empty (n : Nat) (e : Kind) (delim strip value : Bytes) (old : Val)
    (h : Str.trimSet strip value = []) :
    decodeValue (n+1) (.slice e) delim strip old value = .ok .zero := by
  rw [decodeValue.eq_def]
  simp only [h, List.isEmpty_nil, if_true]

/-! ### scalars -/

/-- A well-formed scalar is lawful in the sense `wfCustom` asks of the custom types: it
    renders (fuel and delimiter play no part), renders empty only if it is the zero value,
    and its rendering decodes to it (up to making the zero value explicit). -/
theorem wfScalar_spec {md : Bool} {k : Kind} {v : Val} (hw : wfScalar md k v) :
    ∃ d, (∀ n delim, marshalValue (n+1) k delim v = .ok d) ∧
      (d = [] → canonScalar k v = canonScalar k .zero) ∧
      ((d ≠ [] ∨ md = true) → ∃ v', canonScalar k v' = canonScalar k v ∧
        ∀ n delim strip old, decodeValue (n+1) k delim strip old d = .ok v') := by
  -- the alternatives of `wfScalar`, in the order of its definition
  unfold wfScalar at hw
  split at hw
  · obtain ⟨d, henc, h0, hdec⟩ := hw
    refine ⟨d, fun _ _ => by simp only [marshalValue, henc], fun h => ?_,
      fun hd => ⟨.custom _, rfl, fun n dl st old => ?_⟩⟩
    · simp only [canonScalar, h0 h]
    · rw [decodeValue_custom, hdec hd]; rfl
  · obtain ⟨c, hz, d, henc, h0, hdec⟩ := hw
    refine ⟨d, fun _ _ => by simp only [marshalValue, hz, henc], fun _ => rfl,
      fun hd => ⟨.custom c, ?_, fun n dl st old => ?_⟩⟩
    · simp only [canonScalar, hz]
    · rw [decodeValue_custom, hdec hd]; rfl
  · exact ⟨_, fun _ _ => rfl, fun h => by rw [h]; rfl,
      fun _ => ⟨_, rfl, fun n dl st old => decodeValue_str n dl st old _⟩⟩
  · exact ⟨_, fun _ _ => rfl, fun h => absurd h (fmtInt_ne_nil _),
      fun _ => ⟨_, rfl, fun n dl st old => decodeValue_int_fmtInt n dl st old hw.1 hw.2⟩⟩
  · exact ⟨_, fun _ _ => rfl, fun h => absurd h (Lemmas.Str.fmtNat_ne_nil _),
      fun _ => ⟨_, rfl, fun n dl st old => decodeValue_uint_fmtNat n dl st old hw⟩⟩
  · rename_i b
    cases b
    · exact ⟨[110, 111], fun _ _ => rfl, fun _ => rfl,
        fun _ => ⟨.bool false, rfl, fun n dl st old => decodeValue_bool n dl st old _⟩⟩
    · exact ⟨[121, 101, 115], fun _ _ => rfl, fun h => (by cases h),
        fun _ => ⟨.bool true, rfl, fun n dl st old => decodeValue_bool n dl st old _⟩⟩
  · exact ⟨[], fun _ _ => rfl, fun _ => rfl,
      fun _ => ⟨.str [], rfl, fun n dl st old => decodeValue_str n dl st old _⟩⟩
  · exact ⟨[48], fun _ _ => rfl, fun _ => rfl,
      fun _ => ⟨.int 0, rfl, fun n dl st old => by rw [decodeValue]; rfl⟩⟩
  · exact ⟨[48], fun _ _ => rfl, fun _ => rfl,
      fun _ => ⟨.uint 0, rfl, fun n dl st old => by rw [decodeValue]; rfl⟩⟩
  · exact ⟨[110, 111], fun _ _ => rfl, fun _ => rfl,
      fun _ => ⟨.bool false, rfl, fun n dl st old => decodeValue_bool n dl st old _⟩⟩
  · exact hw.elim

/-! ### lists -/

theorem delimOf_ne_nil (delim : Bytes) : delimOf delim ≠ [] := by
  unfold delimOf
  split
  · simp
  · rename_i h; simpa using h

theorem trimSet_prefix {strip pre : Bytes} (h : ∀ c ∈ pre, strip.contains c = true) (x : Bytes) :
    Str.trimSet strip (pre ++ x) = Str.trimSet strip x := by
  induction pre with
  | nil => rfl
  | cons c pre ih =>
    rw [List.cons_append, trimSet_cons_mem _ (h c List.mem_cons_self)]
    exact ih (fun c hc => h c (List.mem_cons_of_mem _ hc))

theorem trimSet_all_mem {strip pre : Bytes} (h : ∀ c ∈ pre, strip.contains c = true) :
    Str.trimSet strip pre = [] := by
  rw [← List.append_nil pre, trimSet_prefix h]
  rfl

/-- what `elemOK` says, as propositions -/
theorem elemOK_spec {delim strip d : Bytes} (h : elemOK delim strip d = true) :
    d ≠ [] ∧ (delimOf delim = [32] → Str.hasSpaceRune d = false) ∧
      (delimOf delim ≠ [32] → SepOK (delimOf delim) d) ∧ HeadOK strip d ∧ LastOK strip d := by
  simp only [elemOK, Bool.and_eq_true, Bool.not_eq_eq_eq_not, Bool.not_true,
    List.isEmpty_eq_false_iff] at h
  obtain ⟨⟨⟨h1, h2⟩, h3⟩, h4⟩ := h
  refine ⟨h1, fun hd => ?_, fun hd => ?_, fun c hc => ?_, fun c hc => ?_⟩
  · rw [if_pos hd] at h2; simpa using h2
  · rw [if_neg hd] at h2; simpa [SepOK] using h2
  · rw [hc] at h3; simpa using h3
  · rw [hc] at h4; simpa using h4

/-- the elements of a well-formed list render, to `elemOK` pieces that decode back -/
theorem elems_lawful {e : Kind} {delim strip : Bytes} : ∀ {vs : List Val},
    (∀ x ∈ vs, wfScalar true e x ∧
      ∃ d, marshalValue 15 e delim x = .ok d ∧ elemOK delim strip d = true) →
    ∃ ds vs', mapRes (fun v => marshalValue 15 e delim v) vs = .ok ds ∧ (ds = [] → vs = []) ∧
      (∀ d ∈ ds, elemOK delim strip d = true) ∧
      mapRes (fun el => decodeValue 15 e delim strip .zero (Str.trimSet strip el)) ds = .ok vs' ∧
      vs'.map (canonScalar e) = vs.map (canonScalar e)
  | [], _ => ⟨[], [], rfl, fun _ => rfl, nofun, rfl, rfl⟩
  | x :: vs, hw => by
    obtain ⟨hwx, d, hd, hok⟩ := hw x List.mem_cons_self
    obtain ⟨ds, vs', hds, _, hoks, hvs', hc⟩ :=
      elems_lawful fun y hy => hw y (List.mem_cons_of_mem _ hy)
    obtain ⟨_, _, _, hh, hl⟩ := elemOK_spec hok
    obtain ⟨d', hm, _, hdec⟩ := wfScalar_spec hwx
    cases (hm 14 delim).symm.trans hd
    obtain ⟨x', hcx, hx'⟩ := hdec (Or.inr rfl)
    refine ⟨d :: ds, x' :: vs', ?_, nofun, ?_, ?_, ?_⟩
    · rw [mapRes_cons_ok hd, hds]; rfl
    · exact List.forall_mem_cons.mpr ⟨hok, hoks⟩
    · rw [mapRes_cons_ok (b := x') (by rw [trimSet_of_ends hh hl]; exact hx' 14 delim strip .zero),
        hvs']
      rfl
    · rw [List.map_cons, List.map_cons, hcx, hc]

/-- a well-formed list is lawful; `pre` is the newline that `multiline` puts in front -/
theorem slice_lawful {e : Kind} {delim strip : Bytes} {vs : List Val}
    (hw : ∀ x ∈ vs, wfScalar true e x ∧
      ∃ d, marshalValue 15 e delim x = .ok d ∧ elemOK delim strip d = true) :
    ∃ data, marshalValue 16 (.slice e) delim (.list vs) = .ok data ∧ (data = [] → vs = []) ∧
      ∀ pre, (∀ c ∈ pre, strip.contains c = true) →
        ∃ v', decodeValue 16 (.slice e) delim strip .zero (pre ++ data) = .ok v' ∧
          canon (.slice e) (.list vs) = canon (.slice e) v' := by
  obtain ⟨ds, vs', hds, hnil, hoks, hvs', hc⟩ := elems_lawful hw
  refine ⟨Str.joinWith (delimOf delim) ds, by rw [marshalValue_slice, hds]; rfl, ?_⟩
  by_cases hdsne : ds = []
  · subst hdsne
    cases hnil rfl
    refine ⟨fun _ => rfl, fun pre hpre => ⟨.zero, ?_, rfl⟩⟩
    rw [show Str.joinWith (delimOf delim) [] = [] from rfl, List.append_nil]
    exact decodeValue_slice_empty _ _ _ _ _ _ (trimSet_all_mem hpre)
  · -- the joined text is not empty, survives trimming, and splits into the pieces again
    have hends := joinWith_ends (cs := strip) (sep := delimOf delim) hdsne (fun d hd =>
      let h := elemOK_spec (hoks d hd); ⟨h.1, h.2.2.2.1, h.2.2.2.2⟩)
    refine ⟨fun h0 => absurd h0 hends.1, fun pre hpre => ?_⟩
    have htrim : Str.trimSet strip (pre ++ Str.joinWith (delimOf delim) ds) =
        Str.joinWith (delimOf delim) ds := by
      rw [trimSet_prefix hpre]
      exact trimSet_of_ends hends.2.1 hends.2.2
    have hels : (if delimOf delim = [32] then Str.fields (Str.joinWith (delimOf delim) ds)
        else Str.split (delimOf delim) (Str.joinWith (delimOf delim) ds)) = ds := by
      by_cases hb : delimOf delim = [32]
      · rw [if_pos hb, hb]
        exact fields_joinWith hdsne (fun d hd =>
          let h := elemOK_spec (hoks d hd); ⟨h.1, h.2.1 hb⟩)
      · rw [if_neg hb]
        exact split_joinWith_sep (delimOf_ne_nil delim) hdsne (fun d hd =>
          (elemOK_spec (hoks d hd)).2.2.1 hb)
    rw [decodeValue_slice _ _ _ _ _ (by rw [htrim]; exact hends.1), htrim, hels, hvs']
    exact ⟨.list vs', rfl, by simp only [canon, hc]⟩

/-! ### fields -/

/-- what the decoder makes of the value found (or not) under a field's key; `cur` is what the
    field holds -/
def decodeOpt (f : FieldDesc) (cur : Val) : Option Bytes → Res Val
  | some value => decodeValue 16 f.kind f.delim f.strip cur value
  | none => if f.required then .error .err else .ok cur

/-- what `convertToParagraph` leaves under the key of a known field that rendered to `data` -/
def stored (f : FieldDesc) (data : Bytes) : Option Bytes :=
  if (data.isEmpty && !f.required) = true then none
  else some (if f.multiline then 10 :: data else data)

theorem stored_of_omit {f : FieldDesc} {data : Bytes} (h : data = []) (hr : f.required = false) :
    stored f data = none := by
  simp [stored, h, hr]

theorem stored_of_written {f : FieldDesc} {data : Bytes} (h : data ≠ [] ∨ f.required = true) :
    stored f data = some (if f.multiline then 10 :: data else data) := by
  unfold stored
  rw [if_neg]
  rcases h with h | h <;> simp [h]

theorem stored_isSome {f : FieldDesc} {data : Bytes} :
    (stored f data).isSome = true ↔ (f.required = true ∨ data ≠ []) := by
  unfold stored
  cases f.required <;> cases data <;> simp

theorem flatKind_cases {k : Kind} (h : flatKind k = true) :
    (scalarKind k = true ∧ isSlice k = false) ∨ ∃ e, k = .slice e := by
  cases k <;> first | exact Or.inl ⟨rfl, rfl⟩ | exact Or.inr ⟨_, rfl⟩ | cases h

theorem wfVal_scalar {f : FieldDesc} (hk : scalarKind f.kind = true) (v : Val) :
    wfVal f v = wfScalar f.required f.kind v := by
  unfold wfVal
  cases hk' : f.kind <;> rw [hk'] at hk <;> first | rfl | cases hk

theorem canon_scalar {k : Kind} (hk : scalarKind k = true) (v : Val) :
    canon k v = canonScalar k v := by
  cases k <;> first | rfl | cases hk

/-- A well-formed value of a flat field renders, and what is stored for it decodes back to it:
    the two walkers meet at `stored`. -/
theorem field_lawful {f : FieldDesc} (hf : flatField f = true) {v : Val} (hw : wfVal f v) :
    ∃ data, marshalValue 16 f.kind f.delim v = .ok data ∧
      ∃ v', decodeOpt f .zero (stored f data) = .ok v' ∧ canon f.kind v = canon f.kind v' := by
  -- from the three parts of lawfulness: a rendering is omitted only if it is empty and
  -- optional, and then the zero value is found absent
  have key : ∀ data : Bytes, (data = [] → canon f.kind v = canon f.kind .zero) →
      ((data ≠ [] ∨ f.required = true) →
        ∃ v', decodeOpt f .zero (some (if f.multiline then 10 :: data else data)) = .ok v' ∧
          canon f.kind v = canon f.kind v') →
      ∃ v', decodeOpt f .zero (stored f data) = .ok v' ∧ canon f.kind v = canon f.kind v' := by
    intro data h0 hdec
    by_cases hd : data ≠ [] ∨ f.required = true
    · rw [stored_of_written hd]
      exact hdec hd
    · have hd' : data = [] ∧ f.required = false := by simpa using hd
      rw [stored_of_omit hd'.1 hd'.2]
      exact ⟨.zero, by simp only [decodeOpt, hd'.2]; rfl, h0 hd'.1⟩
  simp only [flatField, Bool.and_eq_true, Bool.not_eq_eq_eq_not, Bool.not_true, bne_iff_ne, ne_eq,
    Bool.or_eq_true] at hf
  obtain ⟨⟨_, hkind⟩, hml⟩ := hf
  rcases flatKind_cases hkind with ⟨hsc, hns⟩ | ⟨e, hk⟩
  · have hmlf : f.multiline = false := by
      rcases hml with h | h
      · exact h
      · rw [hns] at h
        cases h.1
    rw [wfVal_scalar hsc] at hw
    simp only [canon_scalar hsc] at key ⊢
    obtain ⟨d, hm, h0, hdec⟩ := wfScalar_spec hw
    refine ⟨d, hm 15 f.delim, key d h0 fun hd => ?_⟩
    obtain ⟨v', hcv, hv'⟩ := hdec hd
    rw [hmlf]
    exact ⟨v', hv' 15 f.delim f.strip .zero, hcv.symm⟩
  · -- the newline that `multiline` puts in front is stripped again
    have hpre : ∀ c ∈ (if f.multiline then [10] else ([] : Bytes)), f.strip.contains c = true := by
      intro c hc
      rcases hml with hml | hml
      · rw [hml] at hc
        cases hc
      · split at hc
        · cases List.mem_singleton.mp hc
          exact hml.2
        · cases hc
    have hdecode : ∀ {data : Bytes} {v' : Val},
        decodeValue 16 (.slice e) f.delim f.strip .zero
          ((if f.multiline then [10] else []) ++ data) = .ok v' →
        decodeOpt f .zero (some (if f.multiline then 10 :: data else data)) = .ok v' := by
      intro data v' hv'
      rw [decodeOpt, hk]
      revert hv'
      cases f.multiline <;> exact id
    unfold wfVal at hw
    rw [hk] at hw key ⊢
    cases v with
    | list vs =>
      obtain ⟨data, hm, h0, hdec⟩ := slice_lawful hw
      refine ⟨data, hm, key data (fun h => by rw [h0 h]; rfl) fun _ => ?_⟩
      obtain ⟨v', hv', hcv⟩ := hdec _ hpre
      exact ⟨v', hdecode hv', hcv⟩
    | zero =>
      refine ⟨[], rfl, key [] (fun _ => rfl) fun _ => ⟨.zero, hdecode ?_, rfl⟩⟩
      rw [List.append_nil]
      exact decodeValue_slice_empty 15 e f.delim f.strip _ .zero (trimSet_all_mem hpre)
    | _ => exact hw.elim

end GoDebian.Lemmas.Codec

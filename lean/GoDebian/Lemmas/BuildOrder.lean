/-
  `order` (= `OrderDSCForBuild`): the lemmas about the sort (BuildOrderSort.lean) applied
  to the graph of BuildOrderGraph.lean.
-/
import GoDebian.Lemmas.BuildOrderSort
import GoDebian.Lemmas.BuildOrderGraph

namespace GoDebian.Lemmas.BuildOrder
open GoDebian GoDebian.BuildOrder

theorem order_of_edges {srcs : List Src} {arch : Dep.Arch} {es : Edges}
    (he : edges srcs arch = .ok es) :
    order srcs arch = sortNodes es (nodeOrder srcs) ((nodeOrder srcs).length + 1) [] [] := by
  unfold order
  rw [he]

theorem order_not_fuel (srcs : List Src) (arch : Dep.Arch) : order srcs arch ≠ .error .fuel := by
  cases he : edges srcs arch with
  | error e =>
    have : e = .panic := edges_error he
    subst this
    unfold order
    rw [he]
    simp
  | ok es =>
    rw [order_of_edges he]
    exact sortNodes_not_fuel es _ _ [] [] (by rw [um_nil]; exact Nat.lt_succ_self _)

theorem order_ok_edges {srcs : List Src} {arch : Dep.Arch} {out : List Bytes}
    (h : order srcs arch = .ok out) : ∃ es, edges srcs arch = .ok es := by
  cases he : edges srcs arch with
  | error e => unfold order at h; rw [he] at h; simp at h
  | ok es => exact ⟨es, rfl⟩

/-- a successful `order` is a topological order of the graph: each node once, and every
    edge goes forward.  The output is the final marked list (newest first) reversed, so this
    is `Inv` read from the other end. -/
theorem order_topo {srcs : List Src} {arch : Dep.Arch} {es : Edges} {out : List Bytes}
    (he : edges srcs arch = .ok es) (h : order srcs arch = .ok out) :
    out.Nodup ∧ (∀ n, n ∈ out ↔ n ∈ nodeOrder srcs) ∧
    ∀ to from_, (to, from_) ∈ es → out.idxOf from_ < out.idxOf to := by
  rw [order_of_edges he] at h
  obtain ⟨m, hi, rfl, hall⟩ := sortNodes_ok es _ _ [] [] out h (Inv.nil _ _) rfl
  refine ⟨(List.reverse_perm m).nodup_iff.mpr hi.nodup, fun n => ?_, fun to from_ hedge => ?_⟩
  · rw [List.mem_reverse]
    exact ⟨@hi.sub n, hall n⟩
  · exact (idx_lt m hi.nodup hi.ord to from_ (hall to (edges_to_node he to from_ hedge)) hedge).2

theorem order_acyclic {srcs : List Src} {arch : Dep.Arch} {es : Edges}
    (he : edges srcs arch = .ok es) (rank : Bytes → Nat)
    (hrank : ∀ to from_, (to, from_) ∈ es → rank from_ < rank to) :
    ∃ out, order srcs arch = .ok out := by
  rw [order_of_edges he]
  exact sortNodes_rank_ok rank hrank (edges_from_node he) _ [] []
    (by rw [um_nil]; exact Nat.lt_succ_self _)

/-! ### building blocks for the examples in Props/C19.lean -/

namespace Sample

def B := Bytes.ofString
def amd64 : Dep.Arch := ⟨B "gnu", B "linux", B "amd64"⟩

/-- the possibility `n` without qualifiers -/
def P (n : String) : Dep.Possibility := ⟨B n, none, some ⟨false, []⟩, [], none, false⟩

/-- the possibility `n [armhf]` -/
def Parm (n : String) : Dep.Possibility :=
  ⟨B n, none, some ⟨false, [⟨B "gnu", B "linux", B "armhf"⟩]⟩, [], none, false⟩

/-- a possibility with a nil architecture set, as `ParseDepends` produces for substvars,
    but not flagged as one (hand-built): `GetPossibilities` dereferences nil on it -/
def Pnil (n : String) : Dep.Possibility := ⟨B n, none, none, [], none, false⟩

end Sample

end GoDebian.Lemmas.BuildOrder

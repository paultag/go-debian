/-
  C09 lemmas on the custom field types whose round trip is already proved (C03: versions,
  C05: architectures): their renderings are never empty, which is what `wfCustom` asks
  besides the round trip.
-/
import GoDebian.Model.Version
import GoDebian.Model.Dependency

namespace GoDebian.Lemmas.Codec
open GoDebian

theorem toString_ne_nil {v : Version.Version} {c : Nat} {rest : Bytes}
    (hu : v.upstream = c :: rest) : Version.toString v ≠ [] := by
  have h1 : Version.stringWithoutEpoch v ≠ [] := by
    unfold Version.stringWithoutEpoch
    split <;> simp [hu]
  unfold Version.toString
  split
  · simp
  · exact h1

theorem render_ne_nil (a : Dep.Arch) : a.render ≠ [] := by
  unfold Dep.Arch.render
  simp only
  split
  · rename_i h
    rcases h.1 with h1 | h1 <;> rw [h1] <;> decide
  · split
    · rename_i h; exact h.2.1
    · split <;> simp [Dep.dash]

end GoDebian.Lemmas.Codec

/-
  The `.deb` loader model (`Model/Deb.lean`): `collect` in closed form; what `plan bs = .ok p`
  stands for under a name (`Planned`); `plan` and `load` taken apart once each (`plan_cases`,
  `load_cases`), everything else about them a corollary.  Core Lean only.
-/
import GoDebian.Model.Deb
import GoDebian.Lemmas.ArIter
import GoDebian.Lemmas.Res

namespace GoDebian.Lemmas.Deb
open GoDebian GoDebian.Ar GoDebian.Deb GoDebian.Lemmas.Ar

/-! ### `collect` -/

/-- The collection is the list of entries itself if their names are distinct, else an error. -/
theorem collect_eq (es acc : List Entry) (h : (acc.map (·.name)).Nodup) :
    collect es acc =
      if ((acc ++ es).map (·.name)).Nodup then .ok (acc ++ es) else .error .err := by
  induction es generalizing acc with
  | nil => rw [collect, List.append_nil, if_pos h]
  | cons e rest ih =>
    have hmem : acc.any (fun x => decide (x.name = e.name)) = true ↔ e.name ∈ acc.map (·.name) := by
      simp only [List.any_eq_true, decide_eq_true_eq, List.mem_map]
    have happ : acc ++ e :: rest = acc ++ [e] ++ rest := by
      rw [List.append_assoc, List.singleton_append]
    rw [collect]
    split
    · rename_i hany
      rw [if_neg]
      rw [List.map_append, List.nodup_append]
      exact fun ⟨_, _, hd⟩ => hd _ (hmem.mp hany) _ List.mem_cons_self rfl
    · rename_i hany
      rw [happ, ih]
      rw [List.map_append, List.nodup_append]
      refine ⟨h, by simp, fun a ha b hb hab => hany (hmem.mpr ?_)⟩
      rw [List.map_singleton, List.mem_singleton] at hb
      rw [← hb, ← hab]
      exact ha

/-! ### `plan` -/

/-- Everything `plan bs = .ok p` stands for (`plan_ok_iff`). -/
structure Planned (bs : Bytes) (p : Plan) : Prop where
  read : Ar.readAll bs = some (p.members, .eof)
  nodup : (p.members.map (·.name)).Nodup
  version : ∃ b k, find sDebianBinary p.members = some b ∧
    Str.indexByte 10 (Ar.data bs b) = some k ∧ (Ar.data bs b).take (k + 1) = [50, 46, 48, 10]
  control : p.members.filter (fun m => Str.hasPrefix m.name sControlDot) = [p.control]
  data : p.members.filter (fun m => Str.hasPrefix m.name sDataDot) = [p.data]
  controlTar : isTarfile p.control.name = true
  dataTar : isTarfile p.data.name = true

theorem plan_cases (bs : Bytes) : plan bs = .error .err ∨ ∃ p, plan bs = .ok p ∧ Planned bs p := by
  -- the result gets a name, so that `plan` is unfolded and split once, not once per disjunct
  generalize hr : plan bs = r
  unfold plan at hr
  split at hr
  · exact Or.inl hr.symm
  · exact Or.inl hr.symm
  · rename_i es hread
    exact absurd rfl (readAll_spec hread).1
  · rename_i es hread
    rw [collect_eq es [] List.nodup_nil, List.nil_append] at hr
    by_cases hnd : (es.map (·.name)).Nodup
    · rw [if_pos hnd] at hr
      dsimp only at hr
      split at hr
      · exact Or.inl hr.symm
      · rename_i b hb
        split at hr
        · exact Or.inl hr.symm
        · rename_i k hk
          split at hr
          · exact Or.inl hr.symm
          · rename_i hv
            split at hr
            · rename_i c d hcs hds
              split at hr
              · exact Or.inl hr.symm
              · rename_i ht
                simp only [Bool.or_eq_true, Bool.not_eq_true', not_or, Bool.not_eq_false] at ht
                exact Or.inr ⟨_, hr.symm, hread, hnd, ⟨b, k, hb, hk, Classical.not_not.mp hv⟩,
                  hcs, hds, ht.1, ht.2⟩
            · exact Or.inl hr.symm
    · rw [if_neg hnd] at hr
      exact Or.inl hr.symm

/-- Every error of `plan` is an ordinary error value. -/
theorem plan_error {bs : Bytes} {e : Err} (h : plan bs = .error e) : e = .err := by
  rcases plan_cases bs with he | ⟨p, hp, _⟩
  · rw [he] at h
    cases h
    rfl
  · rw [hp] at h
    cases h

theorem plan_ok_iff {bs : Bytes} {p : Plan} : plan bs = .ok p ↔ Planned bs p := by
  constructor
  · intro h
    rcases plan_cases bs with he | ⟨p', hp, ok⟩
    · rw [he] at h
      cases h
    · rw [hp] at h
      cases h
      exact ok
  · rintro ⟨hr, hnd, ⟨b, k, hb, hk, hv⟩, hcs, hds, htc, htd⟩
    unfold plan
    rw [hr]
    simp only [collect_eq _ [] List.nodup_nil, List.nil_append, if_pos hnd, hb, hk, hv, hcs, hds,
      htc, htd]
    simp

/-! ### `load` -/

/-- `load` fails with an ordinary error, or with the error of `Codec.unmarshal` on the control
    file, or succeeds with what `plan` selected. -/
theorem load_cases (bs : Bytes) (schema : Codec.Schema) (ctl : TarAnswer) (d : Bool) :
    load bs schema ctl d = .error .err ∨
    (∃ p content e, plan bs = .ok p ∧ Codec.unmarshal schema content = .error e ∧
      load bs schema ctl d = .error e) ∨
    ∃ p rec, plan bs = .ok p ∧ load bs schema ctl d =
      .ok ⟨rec, p.control.name.drop 8, p.data.name.drop 5, p.members.map (·.name)⟩ := by
  -- as in `plan_cases`: split the definition once, under a name
  generalize hr : load bs schema ctl d = r
  unfold load at hr
  split at hr
  · rename_i e hp
    rw [← hr, plan_error hp]
    exact Or.inl rfl
  · rename_i p hp
    split at hr
    · exact Or.inl hr.symm
    · split at hr
      · exact Or.inl hr.symm
      · exact Or.inl hr.symm
      · rename_i content _
        split at hr
        · rename_i e hu
          exact Or.inr (Or.inl ⟨p, content, e, hp, hu, hr.symm⟩)
        · rename_i rec _
          split at hr
          · exact Or.inl hr.symm
          · split at hr
            · exact Or.inl hr.symm
            · exact Or.inr (Or.inr ⟨p, rec, hp, hr.symm⟩)

/-- An error of `load` other than an ordinary error value was reported by
    `Codec.unmarshal` on the control file, after `plan` succeeded. -/
theorem load_error {bs : Bytes} {schema : Codec.Schema} {ctl : TarAnswer} {d : Bool} {e : Err}
    (h : load bs schema ctl d = .error e) (he : e ≠ .err) :
    ∃ p content, plan bs = .ok p ∧ Codec.unmarshal schema content = .error e := by
  rcases load_cases bs schema ctl d with h' | ⟨p, content, e', hp, hu, h'⟩ | ⟨_, _, _, h'⟩
  · rw [h'] at h
    cases h
    exact absurd rfl he
  · rw [h'] at h
    cases h
    exact ⟨p, content, hp, hu⟩
  · rw [h'] at h
    cases h

theorem load_intro {bs : Bytes} {schema : Codec.Schema} {p : Plan}
    {es : List (Bytes × Option Bytes)} {n content : Bytes} {rec : List Codec.Val}
    (hp : plan bs = .ok p)
    (hfind : es.find? (fun (n, _) => Path.clean n = sControl) = some (n, some content))
    (hu : Codec.unmarshal schema content = .ok rec) :
    load bs schema (.entries es false) true =
      .ok ⟨rec, p.control.name.drop 8, p.data.name.drop 5, p.members.map (·.name)⟩ := by
  unfold load
  rw [hp]
  simp only [hfind, hu]
  simp

end GoDebian.Lemmas.Deb

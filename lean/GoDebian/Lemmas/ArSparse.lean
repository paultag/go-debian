/-
  Reading from a list of runs (Model/Ar.lean: `readAtS`, and with it the loop `readFromR`) is
  reading from the flattened bytes; the runs of `buildSegs` flatten to `build`.
-/
import GoDebian.Spec.Ar
import GoDebian.Lemmas.ArIter

namespace GoDebian.Lemmas.ArSparse
open GoDebian GoDebian.Ar GoDebian.Lemmas.Ar

theorem bytes_length (s : Seg) : s.bytes.length = s.len := by
  cases s <;> simp [Seg.bytes, Seg.len]

theorem flatten_cons (s : Seg) (rest : List Seg) : flatten (s :: rest) = s.bytes ++ flatten rest := by
  simp [flatten]

theorem flatten_length (segs : List Seg) : (flatten segs).length = totalLen segs := by
  induction segs with
  | nil => simp [flatten, totalLen]
  | cons s rest ih =>
    rw [flatten_cons, List.length_append, ih, bytes_length]
    simp [totalLen]

theorem slice_eq (s : Seg) (off n : Nat) : s.slice off n = readAt s.bytes off n := by
  cases s with
  | lit b => rfl
  | zeros k => simp [Seg.slice, Seg.bytes, readAt, List.take_replicate]

/-- `readAtS` is the recursion of `readAt_append` along the runs. -/
theorem readAtS_eq (segs : List Seg) (off n : Nat) :
    readAtS segs off n = readAt (flatten segs) off n := by
  induction segs generalizing off n with
  | nil => simp [readAtS, readAt, flatten]
  | cons s rest ih =>
    rw [flatten_cons, readAt_append, bytes_length, readAtS]
    split
    · rename_i hle
      have : readAt s.bytes off n = [] := by
        rw [readAt, List.drop_eq_nil_of_le (by rw [bytes_length]; exact hle), List.take_nil]
      rw [ih, this]
      rfl
    · rename_i hlt
      rw [ih, slice_eq, show off - s.len = 0 by omega]

theorem readFromR_eq (segs : List Seg) (fuel off : Nat) (acc : List Entry) :
    readFromR (readAtS segs) fuel off acc = readFrom fuel (flatten segs) off acc := by
  have hrd : readAtS segs = readAt (flatten segs) := by
    funext o n; exact readAtS_eq segs o n
  induction fuel generalizing off acc with
  | zero => rfl
  | succ k ih =>
    unfold readFromR readFrom
    rw [next_eq_nextR, ← hrd]
    cases nextR (readAtS segs) off with
    | eof => rfl
    | bad => rfl
    | entry e off' => exact ih off' _

open GoDebian.Spec.Ar in
theorem flatten_memberSegs (mk : Member × Nat) : flatten (memberSegs mk) = memberBytes (materialise mk) := by
  simp [flatten, memberSegs, memberBytes, materialise, Seg.bytes, header, headerLen, List.append_assoc]
  rfl

theorem flatten_append (a b : List Seg) : flatten (a ++ b) = flatten a ++ flatten b := by
  simp [flatten]

open GoDebian.Spec.Ar in
theorem flatten_buildSegs (mks : List (Member × Nat)) :
    flatten (buildSegs mks) = build (mks.map materialise) := by
  unfold buildSegs build
  rw [flatten_cons]
  congr 1
  induction mks with
  | nil => simp [flatten]
  | cons mk rest ih =>
    simp only [List.map_cons, List.flatten_cons, flatten_append, ih, flatten_memberSegs]

end GoDebian.Lemmas.ArSparse

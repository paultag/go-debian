/-
  C09 lemmas: pass-through of the fields of an embedded Paragraph that the schema does not
  know.  Nothing is written or omitted under an unknown key, so such a key is read from the
  base, which is the embedded paragraph.
-/
import GoDebian.Model.Codec
import GoDebian.Spec.Codec
import GoDebian.Lemmas.CodecText

namespace GoDebian.Lemmas.Codec
open GoDebian GoDebian.Deb822 GoDebian.Codec GoDebian.Spec.Codec

theorem emit_embedded {f0 : FieldDesc} (h0a : f0.anonymous = true) (h0k : f0.kind = .para)
    (p0 : Paragraph) : emit (f0, .para p0) = .ok (.found p0) := by
  unfold emit
  simp only [h0a, if_true, h0k]

theorem passthrough {f0 : FieldDesc} {s' : Schema} {p0 : Paragraph} {r' : List Val}
    {p : Paragraph} (h0a : f0.anonymous = true) (h0k : f0.kind = .para)
    (hs' : ∀ g ∈ s', g.anonymous = false) (hp0 : p0.order.Nodup)
    (hlisted : ∀ k, (lookup k p0.values).isSome = true → k ∈ p0.order)
    (h : convertToParagraph (f0 :: s') (.para p0 :: r') = .ok p) :
    (∀ k, k ∉ knownKeys (f0 :: s') → p.get k = p0.get k) ∧
    p.order.filter (fun k => !(knownKeys (f0 :: s')).contains k) =
      p0.order.filter (fun k => !(knownKeys (f0 :: s')).contains k) := by
  obtain ⟨es, hes, rfl⟩ := convert_spec h
  -- the embedded paragraph is the one found
  have hfound : lastFound Deb822.empty es = p0 := by
    have hall := mapRes_ok hes
    rw [List.zip_cons_cons] at hall
    cases hall with
    | cons he hrest =>
      rw [emit_embedded h0a h0k] at he
      cases he
      show lastFound p0 _ = p0
      apply lastFound_none
      intro q hq
      obtain ⟨⟨g, w⟩, hg, hem⟩ := all₂_mem_right hrest hq
      have := emit_found hem
      rw [hs' g (mem_zip_left hg)] at this
      cases this
  have hwk : ∀ k, k ∈ (writes es).map Prod.fst → k ∈ knownKeys (f0 :: s') := fun k hk => by
    obtain ⟨d, hd⟩ := mem_wkeys.mp hk
    exact emitted_key_known hes hd rfl
  have hom : ∀ k, k ∈ omits es → k ∈ knownKeys (f0 :: s') := fun k hk =>
    emitted_key_known hes (mem_omits.mp hk) rfl
  refine ⟨fun k hk => ?_, ?_⟩
  · have h2 : k ∉ omits es := fun h => hk (hom k h)
    unfold Paragraph.get
    rw [lookup_assemble, if_neg (fun h => hk (hwk k h)), hfound]
    by_cases h3 : k ∈ p0.order
    · rw [if_pos ⟨h3, h2⟩]
      rfl
    · rw [if_neg (fun h => h3 h.1)]
      cases hl : lookup k p0.values with
      | none => rfl
      | some x => exact absurd (hlisted k (by simp [hl])) h3
  · unfold assemble
    rw [hfound, order_update, List.filter_append, order_baseOf _ _ hp0, List.filter_filter]
    have hnil : List.filter (fun k => !(knownKeys (f0 :: s')).contains k)
        (newKeys ((writes es).map Prod.fst)
          (p0.order.filter (fun k => !(omits es).contains k))) = [] := by
      rw [List.filter_eq_nil_iff]
      intro k hk
      have := hwk k (mem_newKeys.mp hk).1
      simp [this]
    rw [hnil, List.append_nil]
    apply List.filter_congr
    intro k _
    by_cases hk : k ∈ knownKeys (f0 :: s')
    · simp [hk]
    · have : k ∉ omits es := fun h => hk (hom k h)
      simp [hk, this]

end GoDebian.Lemmas.Codec

/-
  C10 lemmas, part 5: composition with the reader (C07) — `Unmarshal` of a rendered
  one-paragraph document decodes the paragraph the document denotes.  Core Lean only.
-/
import GoDebian.Model.Codec
import GoDebian.Spec.Deb822
import GoDebian.Lemmas.Deb822ReadNext

namespace GoDebian.Lemmas.Docs
open GoDebian GoDebian.Deb822 GoDebian.Codec GoDebian.Spec.Deb822

/-- `Unmarshal` of a well-formed one-paragraph document in any layout decodes the
    paragraph the document denotes -/
theorem unmarshal_render (s : Schema) (para : Para) (cs : Choices) (hwf : wfPara para = true) :
    unmarshal s (render [para] cs) = decodeStruct (expectedPara para) s [] := by
  have hall := Lemmas.Deb822ReadNext.all_read_render [para] cs (by simp [wfDoc, hwf])
  obtain ⟨rest, hn⟩ := Lemmas.Deb822Next.next_of_all_single (q := expectedPara para)
    (by simpa using hall)
  unfold unmarshal
  rw [hn]

end GoDebian.Lemmas.Docs

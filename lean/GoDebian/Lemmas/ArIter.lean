/-
  The `ar` reader model on ARBITRARY bytes.  `next` is characterised once (`next_entry_iff`: its
  one-byte probe is the inequality "the data fit"); `readFrom_spec` is the one induction behind
  termination, progress and what is known of every entry returned.  Core Lean only.
-/
import GoDebian.Model.Ar

namespace GoDebian.Lemmas.Ar
open GoDebian GoDebian.Ar

/-! ### `readAt` -/

theorem readAt_length (bs : Bytes) (off n : Nat) :
    (readAt bs off n).length = min n (bs.length - off) := by
  simp [readAt, List.length_take, List.length_drop]

theorem readAt_getElem? (bs : Bytes) (off n i : Nat) (h : i < n) :
    (readAt bs off n)[i]? = bs[off + i]? := by
  simp [readAt, h, List.getElem?_drop]

theorem readAt_append (a b : Bytes) (off n : Nat) :
    readAt (a ++ b) off n =
      readAt a off n ++ readAt b (off - a.length) (n - (readAt a off n).length) := by
  simp only [readAt, List.drop_append, List.take_append, List.length_take]
  congr 2
  omega

/-! ### `parseEntry`, `next` -/

theorem next_eof {bs : Bytes} {off : Nat} (h : bs.length < off + 60) : next bs off = .eof := by
  unfold next
  simp only [readAt_length]
  rw [if_pos (by omega)]

theorem next_entry_iff {bs : Bytes} {off off' : Nat} {e : Entry} :
    next bs off = .entry e off' ↔
      parseEntry (readAt bs off 60) off = .ok e ∧ 0 ≤ e.size ∧
        off + 60 + e.size.toNat ≤ bs.length ∧ off' = off + 60 + e.size.toNat + e.size.toNat % 2 := by
  unfold next
  simp only [readAt_length]
  constructor
  · intro h
    split at h
    · cases h
    · split at h
      · cases h
      · rename_i e' hp
        split at h
        · cases h
        · split at h
          · cases h
          · injection h with h1 h2
            subst h1
            -- the probe reads the last data byte: it succeeds exactly when the data fit
            exact ⟨hp, by omega, by omega, h2.symm⟩
  · rintro ⟨hp, h0, hl, rfl⟩
    rw [if_neg (by omega), hp]
    simp only
    rw [if_neg (by omega), if_neg (by omega)]

theorem getElem?_of_getD {l : Bytes} {i d v : Nat} (h : l.getD i d = v) (hv : v ≠ d) :
    l[i]? = some v := by
  rw [List.getD_eq_getElem?_getD] at h
  cases hl : l[i]? with
  | none => rw [hl] at h; exact absurd h.symm hv
  | some x => rw [hl] at h; exact congrArg some h

theorem parseEntry_ok {line : Bytes} {off : Nat} {e : Entry} (h : parseEntry line off = .ok e) :
    line[58]? = some 96 ∧ line[59]? = some 10 ∧ e.hdrOff = off ∧ e.dataOff = off + 60 := by
  unfold parseEntry at h
  split at h
  · cases h
  · split at h
    · cases h
    · rename_i hm
      simp only at h
      split at h
      · injection h with h
        subst h
        exact ⟨getElem?_of_getD (Classical.byContradiction fun c => hm (Or.inl c)) (by decide),
          getElem?_of_getD (Classical.byContradiction fun c => hm (Or.inr c)) (by decide), rfl, rfl⟩
      · cases h

/-- What `readFrom` guarantees about every entry it adds to the accumulator. -/
def Good (bs : Bytes) (x : Entry) : Prop :=
  bs[x.hdrOff + 58]? = some 96 ∧ bs[x.hdrOff + 59]? = some 10 ∧ 0 ≤ x.size
    ∧ (data bs x).length = x.size.toNat ∧ x.dataOff = x.hdrOff + 60

/-- Everything a successful `Next` tells. -/
theorem next_entry {bs : Bytes} {off off' : Nat} {e : Entry} (h : next bs off = .entry e off') :
    off + 60 ≤ bs.length ∧ off + 60 ≤ off' ∧ Good bs e ∧ e.hdrOff = off := by
  obtain ⟨hp, h0, hl, rfl⟩ := next_entry_iff.mp h
  obtain ⟨h58, h59, hh, hd⟩ := parseEntry_ok hp
  rw [readAt_getElem? _ _ _ _ (by omega)] at h58 h59
  refine ⟨by omega, by omega, ⟨hh ▸ h58, hh ▸ h59, h0, ?_, by rw [hd, hh]⟩, hh⟩
  rw [data, hd, readAt_length]
  omega

/-! ### `readFrom`, `readAll` -/

/-- `k` entries are added; each costs 60 of the bytes left, every unit of fuel used adds one,
    and each is `Good`. -/
theorem readFrom_spec {fuel : Nat} {bs : Bytes} {off : Nat} {acc es : List Entry} {e : End}
    (h : readFrom fuel bs off acc = (es, e)) :
    ∃ k, es.length = acc.length + k ∧ 60 * k ≤ bs.length - off ∧ (e = .fuel → k = fuel) ∧
      ((∀ x ∈ acc, Good bs x) → ∀ x ∈ es, Good bs x) := by
  induction fuel generalizing off acc with
  | zero =>
    cases h
    exact ⟨0, rfl, by omega, fun _ => rfl, id⟩
  | succ fuel ih =>
    unfold readFrom at h
    split at h
    · cases h
      exact ⟨0, rfl, by omega, nofun, id⟩
    · cases h
      exact ⟨0, rfl, by omega, nofun, id⟩
    · rename_i x off' hn
      obtain ⟨h1, h2, hg, _⟩ := next_entry hn
      obtain ⟨k, hk, hb, hf, hgood⟩ := ih h
      rw [List.length_append, List.length_singleton] at hk
      refine ⟨k + 1, by omega, by omega, fun he => by rw [hf he], fun ha => hgood fun y hy => ?_⟩
      rcases List.mem_append.mp hy with hy | hy
      · exact ha y hy
      · rw [List.mem_singleton.mp hy]
        exact hg

theorem readAll_some {bs : Bytes} {es : List Entry} {e : End} (h : readAll bs = some (es, e)) :
    8 ≤ bs.length ∧ readFrom (bs.length / 60 + 1) bs 8 [] = (es, e) := by
  unfold readAll checkAr at h
  simp only at h
  split at h
  · cases h
  · rename_i off hc
    split at hc
    · cases hc
    · rename_i hl
      split at hc
      · cases hc
      · injection hc with hc
        subst hc
        rw [readAt_length] at hl
        injection h with h
        exact ⟨by omega, h⟩

/-- Termination, progress and the entries' invariant of the whole iteration.  The fuel
    `bs.length / 60 + 1` is not used up because `k` steps cost `60 * k ≤ bs.length - 8` bytes. -/
theorem readAll_spec {bs : Bytes} {es : List Entry} {e : End} (h : readAll bs = some (es, e)) :
    e ≠ .fuel ∧ 8 + 60 * es.length ≤ bs.length ∧ ∀ x ∈ es, Good bs x := by
  obtain ⟨h8, hr⟩ := readAll_some h
  obtain ⟨k, hk, hb, hf, hg⟩ := readFrom_spec hr
  rw [List.length_nil, Nat.zero_add] at hk
  refine ⟨fun he => ?_, by omega, hg nofun⟩
  have := hf he
  omega

end GoDebian.Lemmas.Ar

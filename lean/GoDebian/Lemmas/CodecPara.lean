/-
  C09 lemmas, part 1: the paragraph algebra (`lookup` / `insert` / `Set` / `Update`).
  Core Lean only.
-/
import GoDebian.Model.Deb822
import GoDebian.Lemmas.Deb822Para

namespace GoDebian.Lemmas.Codec
open GoDebian GoDebian.Deb822

theorem lookup_insert (k k' v : Bytes) (vs : List (Bytes × Bytes)) :
    lookup k (insert k' v vs) = if k' = k then some v else lookup k vs :=
  Lemmas.Deb822Para.lookup_insert k k' v vs

theorem get_mk (o : List Bytes) (vs : List (Bytes × Bytes)) (k : Bytes) :
    (Paragraph.mk o vs).get k = (lookup k vs).getD [] := rfl

/-! ### `Set` -/

theorem lookup_set (p : Paragraph) (k v k' : Bytes) :
    lookup k' (p.set k v).values = if k = k' then some v else lookup k' p.values := by
  unfold Paragraph.set
  cases lookup k p.values <;> simp [lookup_insert]

theorem get_set (p : Paragraph) (k v k' : Bytes) :
    (p.set k v).get k' = if k = k' then v else p.get k' := by
  unfold Paragraph.get
  rw [lookup_set]
  by_cases h : k = k' <;> simp [h]

theorem order_set (p : Paragraph) (k v : Bytes) :
    (p.set k v).order = if (lookup k p.values).isSome then p.order else p.order ++ [k] := by
  unfold Paragraph.set
  cases lookup k p.values <;> simp

/-! ### `Update` -/

/-- the first loop of `Update`: copy `p` field by field -/
def baseStep (p : Paragraph) (acc : Paragraph × List Bytes) (el : Bytes) : Paragraph × List Bytes :=
  (⟨acc.1.order ++ [el], insert el (p.get el) acc.1.values⟩, el :: acc.2)

/-- the second loop: the other paragraph's fields, new names appended -/
def updStep (q : Paragraph) (acc : Paragraph × List Bytes) (el : Bytes) : Paragraph × List Bytes :=
  let r' : Paragraph := if acc.2.contains el then acc.1 else { acc.1 with order := acc.1.order ++ [el] }
  (⟨r'.order, insert el (q.get el) r'.values⟩, el :: acc.2)

/-- the names the second loop appends: those of `l` not seen before, first occurrences -/
def newKeys : List Bytes → List Bytes → List Bytes
  | [], _ => []
  | el :: l, seen => if seen.contains el then newKeys l (el :: seen) else el :: newKeys l (el :: seen)

theorem update_eq (p q : Paragraph) :
    p.update q = (q.order.foldl (updStep q)
      ((p.order.foldl (baseStep p) (Deb822.empty, [])).1, p.order)).1 := rfl

theorem base_fold (p : Paragraph) (l : List Bytes) (acc : Paragraph × List Bytes) :
    (l.foldl (baseStep p) acc).1.order = acc.1.order ++ l ∧
    ∀ k, lookup k (l.foldl (baseStep p) acc).1.values =
      if k ∈ l then some (p.get k) else lookup k acc.1.values := by
  induction l generalizing acc with
  | nil => simp
  | cons el l ih =>
    obtain ⟨h1, h2⟩ := ih (baseStep p acc el)
    rw [List.foldl_cons]
    refine ⟨by rw [h1]; simp [baseStep], fun k => ?_⟩
    rw [h2]
    by_cases hk : k ∈ l
    · simp [hk]
    · by_cases he : el = k
      · subst he; simp [baseStep, lookup_insert]
      · have : ¬ k = el := fun e => he e.symm
        simp [hk, this, he, baseStep, lookup_insert]

theorem upd_fold (q : Paragraph) (l : List Bytes) (acc : Paragraph × List Bytes) :
    (l.foldl (updStep q) acc).1.order = acc.1.order ++ newKeys l acc.2 ∧
    ∀ k, lookup k (l.foldl (updStep q) acc).1.values =
      if k ∈ l then some (q.get k) else lookup k acc.1.values := by
  induction l generalizing acc with
  | nil => simp [newKeys]
  | cons el l ih =>
    obtain ⟨h1, h2⟩ := ih (updStep q acc el)
    rw [List.foldl_cons]
    refine ⟨?_, fun k => ?_⟩
    · rw [h1]
      by_cases hs : el ∈ acc.2
      · simp [updStep, newKeys, hs]
      · simp [updStep, newKeys, hs]
    · rw [h2]
      have hv : (updStep q acc el).1.values = insert el (q.get el) acc.1.values := by
        unfold updStep
        by_cases hs : el ∈ acc.2 <;> simp [hs]
      rw [hv]
      by_cases hk : k ∈ l
      · simp [hk]
      · by_cases he : el = k
        · subst he; simp [lookup_insert]
        · have : ¬ k = el := fun e => he e.symm
          simp [hk, this, he, lookup_insert]

theorem mem_newKeys {k : Bytes} {l seen : List Bytes} :
    k ∈ newKeys l seen ↔ k ∈ l ∧ k ∉ seen := by
  induction l generalizing seen with
  | nil => simp [newKeys]
  | cons el l ih =>
    unfold newKeys
    by_cases hs : seen.contains el = true
    · rw [if_pos hs, ih]
      have hs' : el ∈ seen := by simpa using hs
      constructor
      · rintro ⟨h1, h2⟩
        exact ⟨List.mem_cons_of_mem _ h1, fun h => h2 (List.mem_cons_of_mem _ h)⟩
      · rintro ⟨h1, h2⟩
        rcases List.mem_cons.mp h1 with rfl | h1
        · exact absurd hs' h2
        · refine ⟨h1, fun h => ?_⟩
          rcases List.mem_cons.mp h with rfl | h
          · exact h2 hs'
          · exact h2 h
    · rw [if_neg hs, List.mem_cons, ih]
      have hs' : el ∉ seen := by simpa using hs
      constructor
      · rintro (rfl | ⟨h1, h2⟩)
        · exact ⟨List.mem_cons_self, hs'⟩
        · exact ⟨List.mem_cons_of_mem _ h1, fun h => h2 (List.mem_cons_of_mem _ h)⟩
      · rintro ⟨h1, h2⟩
        rcases List.mem_cons.mp h1 with rfl | h1
        · exact Or.inl rfl
        · by_cases he : k = el
          · exact Or.inl he
          · refine Or.inr ⟨h1, fun h => ?_⟩
            rcases List.mem_cons.mp h with h | h
            · exact he h
            · exact h2 h

theorem newKeys_of_nodup {l : List Bytes} (h : l.Nodup) (seen : List Bytes) :
    newKeys l seen = l.filter (fun k => !seen.contains k) := by
  induction l generalizing seen with
  | nil => rfl
  | cons el l ih =>
    have hel : el ∉ l := (List.nodup_cons.mp h).1
    have hl := (List.nodup_cons.mp h).2
    have hcongr : l.filter (fun k => !(el :: seen).contains k) =
        l.filter (fun k => !seen.contains k) := by
      apply List.filter_congr
      intro x hx
      have : ¬ x = el := fun e => hel (e ▸ hx)
      simp [this]
    unfold newKeys
    by_cases hs : el ∈ seen
    · rw [if_pos (by simpa using hs), ih hl, hcongr, List.filter_cons]
      simp [hs]
    · rw [if_neg (by simpa using hs), ih hl, hcongr, List.filter_cons]
      simp [hs]

theorem newKeys_nodup (l seen : List Bytes) : (newKeys l seen).Nodup := by
  induction l generalizing seen with
  | nil => simp [newKeys]
  | cons el l ih =>
    unfold newKeys
    by_cases hs : seen.contains el = true
    · rw [if_pos hs]; exact ih _
    · rw [if_neg hs]
      refine List.nodup_cons.mpr ⟨fun h => ?_, ih _⟩
      exact (mem_newKeys.mp h).2 List.mem_cons_self

theorem order_update (p q : Paragraph) :
    (p.update q).order = p.order ++ newKeys q.order p.order := by
  rw [update_eq, (upd_fold q q.order _).1, (base_fold p p.order _).1]
  simp [Deb822.empty]

theorem lookup_update (p q : Paragraph) (k : Bytes) :
    lookup k (p.update q).values =
      if k ∈ q.order then some (q.get k) else if k ∈ p.order then some (p.get k) else none := by
  rw [update_eq, (upd_fold q q.order _).2, (base_fold p p.order _).2]
  simp [Deb822.empty, lookup]

theorem get_update (p q : Paragraph) (k : Bytes) :
    (p.update q).get k =
      if q.order.contains k then q.get k else if p.order.contains k then p.get k else [] := by
  unfold Paragraph.get
  rw [lookup_update]
  by_cases h1 : k ∈ q.order
  · simp [h1, Paragraph.get]
  · by_cases h2 : k ∈ p.order <;> simp [h1, h2, Paragraph.get]

theorem mem_order_update {p q : Paragraph} {k : Bytes} :
    k ∈ (p.update q).order ↔ k ∈ p.order ∨ k ∈ q.order := by
  rw [order_update, List.mem_append, mem_newKeys]
  by_cases h : k ∈ p.order <;> simp [h]

theorem update_inv (p q : Paragraph) (k : Bytes) :
    k ∈ (p.update q).order ↔ (lookup k (p.update q).values).isSome = true := by
  rw [mem_order_update, lookup_update]
  by_cases h1 : k ∈ q.order
  · simp [h1]
  · by_cases h2 : k ∈ p.order <;> simp [h1, h2]

theorem update_nodup {p q : Paragraph} (hp : p.order.Nodup) : (p.update q).order.Nodup := by
  rw [order_update]
  refine List.nodup_append.mpr ⟨hp, newKeys_nodup _ _, fun a ha b hb hab => ?_⟩
  subst hab
  exact (mem_newKeys.mp hb).2 ha

end GoDebian.Lemmas.Codec

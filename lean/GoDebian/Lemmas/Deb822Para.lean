/-
  The paragraph as a map: `lookup` after `insert`, and `Set` as the one operation that keeps
  `Order` and the key set of `Values` in step (`KeysOK`).  Core Lean only.
-/
import GoDebian.Model.Deb822

namespace GoDebian.Lemmas.Deb822Para
open GoDebian GoDebian.Deb822

/-! ### `lookup` / `insert` -/

theorem lookup_insert (k k' v : Bytes) (m : List (Bytes × Bytes)) :
    lookup k (insert k' v m) = if k' = k then some v else lookup k m := by
  induction m with
  | nil => rfl
  | cons a m ih =>
    obtain ⟨k'', v''⟩ := a
    by_cases h1 : k'' = k'
    · subst h1
      simp only [Deb822.insert, lookup, if_true]
      split <;> rfl
    · simp only [Deb822.insert, if_neg h1, lookup, ih]
      -- `k''` is not the key written, so the two tests commute
      by_cases h2 : k'' = k
      · rw [if_pos h2, if_pos h2, if_neg (fun e => h1 (h2.trans e.symm))]
      · rw [if_neg h2, if_neg h2]

theorem insert_insert (k v v' : Bytes) (m : List (Bytes × Bytes)) :
    insert k v (insert k v' m) = insert k v m := by
  induction m with
  | nil => simp [Deb822.insert]
  | cons a m ih => by_cases h : a.1 = k <;> simp [Deb822.insert, h, ih]

theorem get_insert_self (o : List Bytes) (k v : Bytes) (m : List (Bytes × Bytes)) :
    Paragraph.get ⟨o, insert k v m⟩ k = v := by
  simp [Paragraph.get, lookup_insert]

/-! ### `Set` -/

/-- `Order` has no duplicate and lists exactly the keys of `Values` -/
def KeysOK (p : Paragraph) : Prop :=
  p.order.Nodup ∧ ∀ k, k ∈ p.order ↔ (lookup k p.values).isSome

theorem keysOK_empty : KeysOK empty := ⟨List.nodup_nil, fun k => by simp [empty, lookup]⟩

/-- the field step of `Next` is `Set` -/
theorem set_eq (p : Paragraph) (k v : Bytes) :
    p.set k v =
      ⟨if (lookup k p.values).isSome then p.order else p.order ++ [k], insert k v p.values⟩ := by
  unfold Paragraph.set
  cases lookup k p.values <;> rfl

theorem set_of_isSome {p : Paragraph} {k : Bytes} (h : (lookup k p.values).isSome) (v : Bytes) :
    p.set k v = { p with values := insert k v p.values } := by
  rw [set_eq, if_pos h]

theorem mem_order_set_iff {p : Paragraph} (h : KeysOK p) (k v k' : Bytes) :
    k' ∈ (p.set k v).order ↔ k' ∈ p.order ∨ k' = k := by
  rw [set_eq]
  by_cases hs : (lookup k p.values).isSome
  · rw [if_pos hs]
    exact ⟨Or.inl, fun h' => h'.elim id (fun e => e ▸ (h.2 k).mpr hs)⟩
  · rw [if_neg hs, List.mem_append, List.mem_singleton]

theorem mem_order_set {p : Paragraph} (h : KeysOK p) (k v : Bytes) : k ∈ (p.set k v).order :=
  (mem_order_set_iff h k v k).mpr (Or.inr rfl)

theorem KeysOK.set {p : Paragraph} (h : KeysOK p) (k v : Bytes) : KeysOK (p.set k v) := by
  refine ⟨?_, fun k' => ?_⟩
  · rw [set_eq]
    by_cases hs : (lookup k p.values).isSome
    · rw [if_pos hs]
      exact h.1
    · rw [if_neg hs]
      -- `k` is new: not in `Values`, so not in `Order`
      exact List.nodup_append.mpr ⟨h.1, List.pairwise_singleton _ k, fun a ha b hb e =>
        hs ((h.2 k).mp (List.mem_singleton.mp hb ▸ e ▸ ha))⟩
  · rw [mem_order_set_iff h, h.2 k', set_eq, lookup_insert]
    by_cases e : k = k'
    · simp [e]
    · simp [e, Ne.symm e]

end GoDebian.Lemmas.Deb822Para

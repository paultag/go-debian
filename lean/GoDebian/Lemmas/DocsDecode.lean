/-
  C10 lemmas, part 2: what `decodeValue` returns on the value text of each shape —
  scalars, numbers, self-decoding types, and lists in every layout (blank separated,
  comma separated, one entry per line).  Core Lean only.
-/
import GoDebian.Spec.DocsValue
import GoDebian.Lemmas.DocsText
import GoDebian.Lemmas.CodecValue

namespace GoDebian.Lemmas.Docs
open GoDebian GoDebian.Str GoDebian.Codec GoDebian.Spec.Codec GoDebian.Spec.DocsValue
open GoDebian.Lemmas.Str GoDebian.Lemmas.Deb822WriteStr GoDebian.Lemmas.Codec
open GoDebian.Lemmas.Changelog (HeadOK LastOK trimSet_of_ends trimSet_cons_mem trimSet_snoc_mem
  headOK_of_all lastOK_of_all headOK_append lastOK_append joinWith_ends mem_joinWith
  split_joinWith_byte)
open GoDebian.Spec.Deb822 (expectedValue)

/-! ### single values -/

theorem decode_str (delim strip value : Bytes) :
    decodeValue 16 .str delim strip .zero value = .ok (.str value) := by
  simp [decodeValue]

theorem decode_int {i : Int} (h : int64 i) (delim strip : Bytes) :
    decodeValue 16 .int delim strip .zero (fmtInt i) = .ok (.int i) := by
  simp [decodeValue, List.isEmpty_eq_false_iff.mpr (fmtInt_ne_nil i), parseInt64_fmtInt h.1 h.2]

theorem decode_bool (b : Bool) (delim strip : Bytes) :
    decodeValue 16 .bool delim strip .zero (if b then sYes else sNo) = .ok (.bool b) := by
  cases b <;> simp [decodeValue, sYes, sNo]

theorem decode_custom (n : Nat) (typ : String) (delim strip value : Bytes) (c : Custom)
    (h : decodeCustom typ value = .ok c) :
    decodeValue (n+1) (.custom typ) delim strip .zero value = .ok (.custom c) := by
  simp [decodeValue, h, Except.map]

theorem decodeCustom_version {t : Bytes} {v : Version.Version} (h : Version.parse t = .ok v) :
    decodeCustom "Version" t = .ok (.version v) := by
  simp [decodeCustom, h, Except.map]

theorem decodeCustom_arch {t : Bytes} {a : Dep.Arch} (h : Dep.parseArch t = .ok a) :
    decodeCustom "Arch" t = .ok (.arch a) := by
  simp [decodeCustom, h, Except.map]

theorem decodeCustom_dep {t : Bytes} {d : Dep.Dependency} (h : Dep.parse t = .ok d) :
    decodeCustom "Dependency" t = .ok (.dep d) := by
  simp [decodeCustom, h, Except.map]

/-! ### lists, generically -/

theorem mapRes_trim {α : Type} {g : Bytes → Res Val} (text : α → Bytes) (F : α → Val)
    {strip : Bytes} {pieces : List Bytes} {items : List α}
    (ht : pieces.map (trimSet strip) = items.map text)
    (hg : ∀ x ∈ items, g (text x) = .ok (F x)) :
    mapRes (fun el => g (trimSet strip el)) pieces = .ok (items.map F) := by
  induction pieces generalizing items with
  | nil =>
    cases items with
    | nil => rfl
    | cons => simp at ht
  | cons p pieces ih =>
    cases items with
    | nil => simp at ht
    | cons x items =>
      simp only [List.map_cons, List.cons.injEq] at ht
      have h1 : g (trimSet strip p) = .ok (F x) := by rw [ht.1]; exact hg x (by simp)
      rw [mapRes_cons_ok (g := fun el => g (trimSet strip el)) h1,
        ih ht.2 (fun y hy => hg y (List.mem_cons_of_mem _ hy))]
      rfl

theorem decode_slice_of {α : Type} (text : α → Bytes) (F : α → Val) {e : Kind}
    {delim strip value : Bytes} {items : List α} (hne : trimSet strip value ≠ [])
    (hi : items ≠ [])
    (ht : (if delimOf delim = [32] then fields (trimSet strip value)
           else split (delimOf delim) (trimSet strip value)).map (trimSet strip) = items.map text)
    (hg : ∀ x ∈ items, decodeValue 15 e delim strip .zero (text x) = .ok (F x)) :
    decodeValue 16 (.slice e) delim strip .zero value = .ok (listVal (items.map F)) := by
  rw [decodeValue_slice _ _ _ _ _ hne,
    mapRes_trim (g := fun el => decodeValue 15 e delim strip .zero el) text F ht hg]
  cases items with
  | nil => exact absurd rfl hi
  | cons x items => rfl

theorem decode_slice_nil (e : Kind) (delim strip : Bytes) :
    decodeValue 16 (.slice e) delim strip .zero [] = .ok (listVal []) :=
  decodeValue_slice_empty _ _ _ _ _ _ rfl

theorem map_trimSet_id {strip : Bytes} {ls : List Bytes}
    (h : ∀ x ∈ ls, HeadOK strip x ∧ LastOK strip x) : ls.map (trimSet strip) = ls := by
  induction ls with
  | nil => rfl
  | cons x ls ih =>
    rw [List.map_cons, trimSet_of_ends (h x (by simp)).1 (h x (by simp)).2,
      ih (fun y hy => h y (List.mem_cons_of_mem _ hy))]

/-! ### blank separated lists -/

theorem decode_words {α : Type} (text : α → Bytes) (F : α → Val) (e : Kind) (delim strip : Bytes)
    (hd : delimOf delim = [32]) (hs : strip.all isWs = true) (items : List α)
    (hw : ∀ x ∈ items, wfWord (text x) = true)
    (hg : ∀ x ∈ items, decodeValue 15 e delim strip .zero (text x) = .ok (F x))
    (l : Layout) (name : Bytes) :
    decodeValue 16 (.slice e) delim strip .zero
      (expectedValue ⟨name, (partsOfLines (odd l) (groupLines [32] [] (items.map text) l.tail)).1,
        (partsOfLines (odd l) (groupLines [32] [] (items.map text) l.tail)).2⟩) =
      .ok (listVal (items.map F)) := by
  cases items with
  | nil =>
    simp only [List.map_nil, groupLines]
    rw [expectedValue_no_lines]
    exact decode_slice_nil _ _ _
  | cons x rest =>
    have hwords : ∀ y ∈ text x :: rest.map text, y ≠ [] ∧ hasSpaceRune y = false := by
      intro y hy
      rw [← List.map_cons] at hy
      obtain ⟨z, hz, rfl⟩ := List.mem_map.mp hy
      exact wfWord_spec (hw z hz)
    obtain ⟨t, ht, hv⟩ := expectedValue_group name (odd l) [32] [] (text x) (rest.map text) l.tail
      (hwords _ (by simp)).1
    rw [List.map_cons, hv]
    simp only [List.nil_append]
    obtain ⟨hJ0, hJ1, hJ2⟩ := group_ends (cs := strip) (same := [32]) (brk := [10])
      (x := text x) (rest := rest.map text)
      (fun y hy => ⟨(hwords y hy).1, word_ends hs (hwords y hy).2⟩) l.tail
    obtain ⟨t', ht', htrim, _⟩ := trimSet_value (strip := strip) hJ0 hJ1 hJ2 ht
    have hne : trimSet strip (text x ++ tailJoin [32] [10] (rest.map text) l.tail ++ t) ≠ [] := by
      rw [htrim]; exact fun h => hJ0 (List.append_eq_nil_iff.mp h).1
    refine decode_slice_of text F hne (by simp) ?_ hg
    rw [if_pos hd, htrim, fields_group _ _ hwords _ _ ht', ← List.map_cons]
    exact map_trimSet_id (fun y hy => by
      obtain ⟨z, hz, rfl⟩ := List.mem_map.mp hy
      exact word_ends hs (wfWord_spec (hw z hz)).2)

/-! ### comma separated lists -/

theorem wfItem_spec {strip b : Bytes} (hs : strip.all isWs = true) (h : wfItem b = true) :
    b ≠ [] ∧ 44 ∉ b ∧ HeadOK strip b ∧ LastOK strip b := by
  simp only [wfItem, Bool.and_eq_true, Bool.not_eq_eq_eq_not, Bool.not_true,
    List.isEmpty_eq_false_iff, List.contains_eq_mem, decide_eq_false_iff_not] at h
  obtain ⟨⟨⟨⟨h0, h1⟩, h2⟩, _⟩, _⟩ := h
  exact ⟨h0, h2, trimmed_ends hs h1⟩

theorem decode_commas (strip : Bytes) (hs : strip.all isWs = true)
    (h10 : strip.contains 10 = true) (h32 : strip.contains 32 = true) (items : List Bytes)
    (hw : ∀ x ∈ items, wfItem x = true) (l : Layout) (name : Bytes) :
    decodeValue 16 (.slice .str) [44] strip .zero
      (expectedValue ⟨name, (partsOfLines (odd l) (groupLines [44, 32] [44] items l.tail)).1,
        (partsOfLines (odd l) (groupLines [44, 32] [44] items l.tail)).2⟩) =
      .ok (listVal (items.map .str)) := by
  cases items with
  | nil =>
    simp only [groupLines]
    rw [expectedValue_no_lines]
    exact decode_slice_nil _ _ _
  | cons x rest =>
    have hit : ∀ y ∈ x :: rest, y ≠ [] ∧ 44 ∉ y ∧ HeadOK strip y ∧ LastOK strip y :=
      fun y hy => wfItem_spec hs (hw y hy)
    obtain ⟨t, ht, hv⟩ := expectedValue_group name (odd l) [44, 32] [44] x rest l.tail (hit x (by simp)).1
    rw [hv]
    simp only [List.cons_append, List.nil_append]
    obtain ⟨hJ0, hJ1, hJ2⟩ := group_ends (cs := strip) (same := [44, 32]) (brk := [44, 10])
      (x := x) (rest := rest) (fun y hy => ⟨(hit y hy).1, (hit y hy).2.2⟩) l.tail
    obtain ⟨t', _, htrim, ht0⟩ := trimSet_value (strip := strip) hJ0 hJ1 hJ2 ht
    rw [ht0 h10, List.append_nil] at htrim
    have hne : trimSet strip (x ++ tailJoin [44, 32] [44, 10] rest l.tail ++ t) ≠ [] := by
      rw [htrim]; exact hJ0
    have hdelim : delimOf [44] = [44] := rfl
    refine decode_slice_of (fun y => y) Val.str hne (by simp) ?_
      (fun y _ => by simp [decodeValue])
    rw [hdelim, if_neg (by decide), htrim, List.map_id']
    unfold split
    have hlen := length_tailJoin 32 10 rest l.tail
    rw [splitNAux_tailJoin 32 10 h32 h10 (by decide) (by decide) rest
      (fun y hy => (hit y (List.mem_cons_of_mem _ hy)).2) x (hit x (by simp)).2.1 l.tail _ _
      (by simp; omega) (by simp; omega),
      trimSet_of_ends (hit x (by simp)).2.2.1 (hit x (by simp)).2.2.2]

/-! ### one entry per line -/

theorem decode_lines {α : Type} (line : α → Bytes) (F : α → Val) (e : Kind) (strip : Bytes)
    (h10 : strip.contains 10 = true) (items : List α)
    (hl : ∀ x ∈ items, line x ≠ [] ∧ HeadOK strip (line x) ∧ LastOK strip (line x) ∧ 10 ∉ line x)
    (hg : ∀ x ∈ items, decodeValue 15 e [10] strip .zero (line x) = .ok (F x))
    (fe : Bool) (name : Bytes) :
    decodeValue 16 (.slice e) [10] strip .zero
      (expectedValue ⟨name, (partsOfLines fe (items.map line)).1,
        (partsOfLines fe (items.map line)).2⟩) = .ok (listVal (items.map F)) := by
  cases hi : items with
  | nil =>
    simp only [List.map_nil]
    rw [expectedValue_no_lines]
    exact decode_slice_nil _ _ _
  | cons x rest =>
    rw [← hi]
    have hne0 : items.map line ≠ [] := by rw [hi]; simp
    have hlines : ∀ y ∈ items.map line, y ≠ [] ∧ HeadOK strip y ∧ LastOK strip y ∧ 10 ∉ y := by
      intro y hy
      obtain ⟨z, hz, rfl⟩ := List.mem_map.mp hy
      exact hl z hz
    obtain ⟨t, ht, hv⟩ := expectedValue_lines name fe (items.map line) hne0
      (by rw [hi]; simpa using (hl x (by rw [hi]; simp)).1)
    rw [hv]
    obtain ⟨hJ0, hJ1, hJ2⟩ := joinWith_ends (cs := strip) (sep := [10]) hne0
      (fun y hy => ⟨(hlines y hy).1, (hlines y hy).2.1, (hlines y hy).2.2.1⟩)
    obtain ⟨t', _, htrim, ht0⟩ := trimSet_value (strip := strip) hJ0 hJ1 hJ2 ht
    rw [ht0 h10, List.append_nil] at htrim
    have hne : trimSet strip (joinWith [10] (items.map line) ++ t) ≠ [] := by
      rw [htrim]; exact hJ0
    have hdelim : delimOf [10] = [10] := rfl
    refine decode_slice_of line F hne (by rw [hi]; simp) ?_ hg
    rw [hdelim, if_neg (by decide), htrim,
      split_joinWith hne0 (fun y hy => (hlines y hy).2.2.2)]
    exact map_trimSet_id (fun y hy => ⟨(hlines y hy).2.1, (hlines y hy).2.2.1⟩)

/-! ### hash entries -/

theorem tokens_line {strip : Bytes} (hs : strip.all isWs = true) {toks : List Bytes}
    (hne : toks ≠ []) (hw : ∀ t ∈ toks, t ≠ [] ∧ hasSpaceRune t = false) :
    joinWith [32] toks ≠ [] ∧ HeadOK strip (joinWith [32] toks) ∧
      LastOK strip (joinWith [32] toks) ∧ 10 ∉ joinWith [32] toks := by
  obtain ⟨h0, h1, h2⟩ := joinWith_ends (cs := strip) (sep := [32]) hne
    (fun t ht => ⟨(hw t ht).1, word_ends hs (hw t ht).2⟩)
  refine ⟨h0, h1, h2, fun hm => ?_⟩
  rcases mem_joinWith hm with h | ⟨t, ht, hc⟩
  · simp at h
  · exact not_mem_of_word (hw t ht).2 (c := 10) rfl hc

theorem hashType_known {alg : String} (h : knownAlg alg) :
    ∃ a, decodeCustom (Spec.Docs.hashType alg) = (fun data => (parseFileHash a data).map .hash) ∧
      a = Bytes.ofString alg ∧
      byHashOf alg = (if a = sSha256 then [83, 72, 65, 50, 53, 54]
        else if a = sSha512 then [83, 72, 65, 53, 49, 50] else []) := by
  rcases h with rfl | rfl | rfl | rfl
  · exact ⟨sMd5, by funext d; simp [Spec.Docs.hashType, decodeCustom], by decide +kernel, by decide +kernel⟩
  · exact ⟨sSha1, by funext d; simp [Spec.Docs.hashType, decodeCustom], by decide +kernel, by decide +kernel⟩
  · exact ⟨sSha256, by funext d; simp [Spec.Docs.hashType, decodeCustom], by decide +kernel, by decide +kernel⟩
  · exact ⟨sSha512, by funext d; simp [Spec.Docs.hashType, decodeCustom], by decide +kernel, by decide +kernel⟩

theorem decode_hashLine {alg : String} (h : knownAlg alg) {e : HashEntry}
    (hw : wfWord e.hash = true ∧ wfWord e.name = true ∧ int64 e.size) (delim strip : Bytes) :
    decodeValue 15 (.custom (Spec.Docs.hashType alg)) delim strip .zero (hashLine e) =
      .ok (hashView alg e) := by
  obtain ⟨a, hdc, ha, hbh⟩ := hashType_known h
  apply decode_custom
  rw [hdc]
  simp only [parseFileHash, hashLine]
  rw [fields_joinWith (by simp) (by
    intro t ht
    simp only [List.mem_cons, List.not_mem_nil, or_false] at ht
    rcases ht with rfl | rfl | rfl
    · exact wfWord_spec hw.1
    · exact fmtInt_word _
    · exact wfWord_spec hw.2.1)]
  simp only [parseInt64_fmtInt hw.2.2.1 hw.2.2.2, Except.map, ha, hbh]

theorem hashLine_ok {strip : Bytes} (hs : strip.all isWs = true) {e : HashEntry}
    (hw : wfWord e.hash = true ∧ wfWord e.name = true ∧ int64 e.size) :
    hashLine e ≠ [] ∧ HeadOK strip (hashLine e) ∧ LastOK strip (hashLine e) ∧ 10 ∉ hashLine e :=
  tokens_line hs (by simp) (by
    intro t ht
    simp only [List.mem_cons, List.not_mem_nil, or_false] at ht
    rcases ht with rfl | rfl | rfl
    · exact wfWord_spec hw.1
    · exact fmtInt_word _
    · exact wfWord_spec hw.2.1)

theorem changesLine_tokens {e : ChangesEntry}
    (hw : wfWord e.hash = true ∧ wfWord e.name = true ∧ wfWord e.component = true ∧
      wfWord e.priority = true ∧ int64 e.size) :
    ∀ t ∈ [e.hash, fmtInt e.size, e.component, e.priority, e.name],
      t ≠ [] ∧ hasSpaceRune t = false := by
  intro t ht
  simp only [List.mem_cons, List.not_mem_nil, or_false] at ht
  rcases ht with rfl | rfl | rfl | rfl | rfl
  · exact wfWord_spec hw.1
  · exact fmtInt_word _
  · exact wfWord_spec hw.2.2.1
  · exact wfWord_spec hw.2.2.2.1
  · exact wfWord_spec hw.2.1

theorem decode_changesLine {e : ChangesEntry}
    (hw : wfWord e.hash = true ∧ wfWord e.name = true ∧ wfWord e.component = true ∧
      wfWord e.priority = true ∧ int64 e.size) (delim strip : Bytes) :
    decodeValue 15 (.custom "FileListChangesFileHash") delim strip .zero (changesLine e) =
      .ok (changesView e) := by
  apply decode_custom
  simp only [decodeCustom, parseChangesHash, changesLine]
  rw [split_joinWith_byte (by simp) (fun t ht =>
    not_mem_of_word (changesLine_tokens hw t ht).2 (c := 32) rfl)]
  simp only [parseInt64_fmtInt hw.2.2.2.2.1 hw.2.2.2.2.2, Except.map]

theorem changesLine_ok {strip : Bytes} (hs : strip.all isWs = true) {e : ChangesEntry}
    (hw : wfWord e.hash = true ∧ wfWord e.name = true ∧ wfWord e.component = true ∧
      wfWord e.priority = true ∧ int64 e.size) :
    changesLine e ≠ [] ∧ HeadOK strip (changesLine e) ∧ LastOK strip (changesLine e) ∧
      10 ∉ changesLine e :=
  tokens_line hs (by simp) (changesLine_tokens hw)

end GoDebian.Lemmas.Docs

/-
  Lemmas about the topological sort of Model/BuildOrder.lean (`pass`, `sortNodes`),
  for an arbitrary edge list `es` and node list `nodes`.

  * `gens es l marked` is the list of nodes one pass over `l` marks, in order; `pass` is
    expressed through it (`pass_eq`).
  * `Inv`: the marked list (newest first) has no duplicates, consists of nodes, and every
    marked node has all its inbound neighbours marked EARLIER (`Ord`).
  * `um`: the number of unmarked node occurrences, the termination measure.
  * a pass over a list that contains an unmarked node whose inbound neighbours are all
    marked outputs something (`gens_progress`); with a rank function such a node exists
    whenever there is an unmarked node (`exists_ready`).
-/
import GoDebian.Model.BuildOrder

namespace GoDebian.Lemmas.BuildOrder
open GoDebian GoDebian.BuildOrder

abbrev Edges := List (Bytes × Bytes)

/-! ### inbound -/

theorem mem_inbound {es : Edges} {n f : Bytes} : f ∈ inbound es n ↔ (n, f) ∈ es := by
  unfold inbound
  rw [List.mem_map]
  constructor
  · rintro ⟨⟨a, b⟩, hp, rfl⟩
    rw [List.mem_filter] at hp
    have : a = n := by simpa using hp.2
    subst this
    exact hp.1
  · intro h
    exact ⟨(n, f), List.mem_filter.mpr ⟨h, by simp⟩, rfl⟩

/-- the test `sortSingleNodes` makes on a node -/
theorem ready_iff {es : Edges} {marked : List Bytes} {n : Bytes} :
    (inbound es n).all (marked.contains ·) = true ↔ ∀ f, (n, f) ∈ es → f ∈ marked := by
  simp only [List.all_eq_true, mem_inbound, List.contains_iff_mem]

/-! ### one pass -/

/-- the nodes a pass over `l` marks, in order -/
def gens (es : Edges) : List Bytes → List Bytes → List Bytes
  | [], _ => []
  | n :: rest, marked =>
    if marked.contains n then gens es rest marked
    else if (inbound es n).all (marked.contains ·) then n :: gens es rest (n :: marked)
    else gens es rest marked

theorem gens_nil (es : Edges) (marked : List Bytes) : gens es [] marked = [] := rfl

/-- `pass` in terms of `gens`: the newly marked nodes are pushed onto `marked`, appended
    to `gen`, and `unpruned` is raised iff some scanned node was unmarked at the start -/
theorem pass_eq (es : Edges) (l marked gen : List Bytes) (u : Bool) :
    pass es l marked gen u =
      ((gens es l marked).reverse ++ marked, gen ++ gens es l marked,
        u || l.any (fun n => !marked.contains n)) := by
  fun_induction gens es l marked generalizing gen u with
  | case1 => simp [pass]
  | case2 n rest marked h1 ih =>
    rw [pass, if_pos h1, ih]
    simp [List.contains_iff_mem.mp h1]
  | case3 n rest marked h1 h2 ih =>
    rw [pass, if_neg h1, if_pos h2, ih]
    simp [mt List.contains_iff_mem.mpr h1]
  | case4 n rest marked h1 h2 ih =>
    rw [pass, if_neg h1, if_neg h2, ih]
    simp [mt List.contains_iff_mem.mpr h1]

/-! ### the invariant -/

/-- newest first: every element has all its inbound neighbours further down -/
def Ord (es : Edges) : List Bytes → Prop
  | [] => True
  | x :: m => (∀ f, (x, f) ∈ es → f ∈ m) ∧ Ord es m

structure Inv (es : Edges) (nodes marked : List Bytes) : Prop where
  nodup : marked.Nodup
  ord : Ord es marked
  sub : marked ⊆ nodes

theorem Inv.nil (es : Edges) (nodes : List Bytes) : Inv es nodes [] :=
  ⟨List.nodup_nil, trivial, List.nil_subset _⟩

theorem Inv.cons {es : Edges} {nodes marked : List Bytes} {n : Bytes} (hi : Inv es nodes marked)
    (hn : n ∈ nodes) (hm : n ∉ marked) (hr : ∀ f, (n, f) ∈ es → f ∈ marked) :
    Inv es nodes (n :: marked) :=
  ⟨List.nodup_cons.mpr ⟨hm, hi.nodup⟩, ⟨hr, hi.ord⟩, List.cons_subset.mpr ⟨hn, hi.sub⟩⟩

theorem gens_inv {es : Edges} {nodes : List Bytes} (l marked : List Bytes) (hl : l ⊆ nodes)
    (hi : Inv es nodes marked) : Inv es nodes ((gens es l marked).reverse ++ marked) := by
  fun_induction gens es l marked with
  | case1 => exact hi
  | case2 _ _ _ _ ih | case4 _ _ _ _ _ ih => exact ih (List.cons_subset.mp hl).2 hi
  | case3 n rest marked h1 h2 ih =>
    obtain ⟨hn, hrest⟩ := List.cons_subset.mp hl
    rw [List.reverse_cons, List.append_assoc]
    exact ih hrest (hi.cons hn (mt List.contains_iff_mem.mpr h1) (ready_iff.mp h2))

/-! ### the measure -/

/-- number of unmarked node occurrences -/
def um (nodes marked : List Bytes) : Nat := (nodes.filter (fun n => !marked.contains n)).length

theorem um_nil (nodes : List Bytes) : um nodes [] = nodes.length := by
  simp [um]

/-- marking `n` filters the unmarked occurrences once more, and removes at least `n` -/
theorem um_cons_lt {nodes marked : List Bytes} {n : Bytes} (hn : n ∈ nodes) (hm : n ∉ marked) :
    um nodes (n :: marked) < um nodes marked := by
  have e : nodes.filter (fun x => !(n :: marked).contains x)
      = (nodes.filter (fun x => !marked.contains x)).filter (fun x => !decide (x = n)) := by
    rw [List.filter_filter]
    congr 1
    funext x
    simp
  unfold um
  rw [e]
  exact List.length_filter_lt_length_iff_exists.mpr
    ⟨n, List.mem_filter.mpr ⟨hn, by simpa using hm⟩, by simp⟩

theorem gens_um {es : Edges} {nodes : List Bytes} (l marked : List Bytes) (hl : l ⊆ nodes) :
    um nodes ((gens es l marked).reverse ++ marked) + (gens es l marked).length ≤ um nodes marked := by
  fun_induction gens es l marked with
  | case1 => exact Nat.le_refl _
  | case2 _ _ _ _ ih | case4 _ _ _ _ _ ih => exact ih (List.cons_subset.mp hl).2
  | case3 n rest marked h1 h2 ih =>
    obtain ⟨hn, hrest⟩ := List.cons_subset.mp hl
    have h3 := ih hrest
    have h4 := um_cons_lt hn (mt List.contains_iff_mem.mpr h1)
    rw [List.reverse_cons, List.append_assoc, List.singleton_append, List.length_cons]
    omega

/-! ### progress -/

/-- a pass that scans an unmarked node all of whose inbound neighbours are marked outputs
    something -/
theorem gens_progress {es : Edges} {n : Bytes} (l marked : List Bytes) (hn : n ∈ l)
    (hm : n ∉ marked) (hr : ∀ f, (n, f) ∈ es → f ∈ marked) : gens es l marked ≠ [] := by
  fun_induction gens es l marked with
  | case1 => cases hn
  | case2 x rest marked h1 ih =>
    rcases List.mem_cons.mp hn with rfl | hn
    · exact absurd (List.contains_iff_mem.mp h1) hm
    · exact ih hn hm hr
  | case3 => exact List.cons_ne_nil _ _
  | case4 x rest marked h1 h2 ih =>
    rcases List.mem_cons.mp hn with rfl | hn
    · exact absurd (ready_iff.mpr hr) h2
    · exact ih hn hm hr

/-- with a rank function that decreases along edges, and edges that only come from nodes,
    an unmarked node yields an unmarked node that is ready -/
theorem exists_ready {es : Edges} {nodes marked : List Bytes} (rank : Bytes → Nat)
    (hrank : ∀ to from_, (to, from_) ∈ es → rank from_ < rank to)
    (hfrom : ∀ to from_, (to, from_) ∈ es → from_ ∈ nodes) :
    ∀ k n, rank n < k → n ∈ nodes → n ∉ marked →
      ∃ n', n' ∈ nodes ∧ n' ∉ marked ∧ ∀ f, (n', f) ∈ es → f ∈ marked := by
  intro k
  induction k with
  | zero => intro n h; cases h
  | succ k ih =>
    intro n hk hn hm
    by_cases hr : ∀ f, (n, f) ∈ es → f ∈ marked
    · exact ⟨n, hn, hm, hr⟩
    · rcases Classical.not_forall.mp hr with ⟨f, hf⟩
      rcases not_imp.mp hf with ⟨he, hfm⟩
      have := hrank n f he
      exact ih f (by omega) (hfrom n f he) hfm

/-! ### the loop -/

/-- one round of the loop, in terms of `gens` -/
theorem sortNodes_succ (es : Edges) (nodes : List Bytes) (fuel : Nat) (marked out : List Bytes) :
    sortNodes es nodes (fuel + 1) marked out =
      if gens es nodes marked = [] then
        if ∃ n ∈ nodes, n ∉ marked then .error .err else .ok out
      else sortNodes es nodes fuel ((gens es nodes marked).reverse ++ marked)
        (out ++ gens es nodes marked) := by
  rw [sortNodes, pass_eq]
  by_cases hg : gens es nodes marked = []
  · simp [hg]
  · simp [hg]

/-- the fuel suffices: each continuing pass marks at least one node occurrence -/
theorem sortNodes_not_fuel (es : Edges) (nodes : List Bytes) :
    ∀ fuel marked out, um nodes marked < fuel → sortNodes es nodes fuel marked out ≠ .error .fuel := by
  intro fuel
  induction fuel with
  | zero => intro _ _ h; cases h
  | succ fuel ih =>
    intro marked out h
    rw [sortNodes_succ]
    split
    · split
      · exact fun e => nomatch e
      · exact fun e => nomatch e
    · rename_i hg
      have hlen := List.length_pos_iff.mpr hg
      have := gens_um (es := es) nodes marked (List.Subset.refl _)
      exact ih _ _ (by omega)

/-- a successful sort ends with every node marked; its output is the marked list, oldest
    first -/
theorem sortNodes_ok (es : Edges) (nodes : List Bytes) :
    ∀ fuel marked out r, sortNodes es nodes fuel marked out = .ok r → Inv es nodes marked →
      out = marked.reverse → ∃ m, Inv es nodes m ∧ r = m.reverse ∧ ∀ n ∈ nodes, n ∈ m := by
  intro fuel
  induction fuel with
  | zero => intro _ _ _ h; cases h
  | succ fuel ih =>
    intro marked out r h hi ho
    rw [sortNodes_succ] at h
    split at h
    · split at h
      · cases h
      · rename_i hany
        cases h
        exact ⟨marked, hi, ho, fun n hn => Classical.not_not.mp fun hm => hany ⟨n, hn, hm⟩⟩
    · refine ih _ _ r h (gens_inv nodes marked (List.Subset.refl _) hi) ?_
      rw [ho, List.reverse_append, List.reverse_reverse]

/-- with a rank function (and edges that only come from nodes) the sort succeeds -/
theorem sortNodes_rank_ok {es : Edges} {nodes : List Bytes} (rank : Bytes → Nat)
    (hrank : ∀ to from_, (to, from_) ∈ es → rank from_ < rank to)
    (hfrom : ∀ to from_, (to, from_) ∈ es → from_ ∈ nodes) :
    ∀ fuel marked out, um nodes marked < fuel → ∃ r, sortNodes es nodes fuel marked out = .ok r := by
  intro fuel
  induction fuel with
  | zero => intro _ _ h; cases h
  | succ fuel ih =>
    intro marked out h
    rw [sortNodes_succ]
    split
    · rename_i hg
      split
      · rename_i hany
        obtain ⟨n, hn, hm⟩ := hany
        obtain ⟨n', hn', hm', hr'⟩ :=
          exists_ready rank hrank hfrom (rank n + 1) n (Nat.lt_succ_self _) hn hm
        exact absurd hg (gens_progress nodes marked hn' hm' hr')
      · exact ⟨out, rfl⟩
    · rename_i hg
      have hlen := List.length_pos_iff.mpr hg
      have := gens_um (es := es) nodes marked (List.Subset.refl _)
      exact ih _ _ (by omega)

/-! ### consequences of `Ord` -/

/-- in the output (oldest first) every inbound neighbour of a marked node stands strictly
    before it -/
theorem idx_lt {es : Edges} :
    ∀ m : List Bytes, m.Nodup → Ord es m → ∀ to from_, to ∈ m → (to, from_) ∈ es →
      from_ ∈ m ∧ m.reverse.idxOf from_ < m.reverse.idxOf to := by
  intro m
  induction m with
  | nil => intro _ _ _ _ h; cases h
  | cons x m ih =>
    intro hn ho to from_ hto he
    obtain ⟨hxm, hnm⟩ := List.nodup_cons.mp hn
    rw [List.reverse_cons, List.idxOf_append, List.idxOf_append]
    simp only [List.mem_reverse]
    rcases List.mem_cons.mp hto with rfl | hto
    · have hf := ho.1 from_ he
      have := List.idxOf_lt_length_of_mem (List.mem_reverse.mpr hf)
      rw [if_pos hf, if_neg hxm]
      exact ⟨List.mem_cons_of_mem _ hf, by omega⟩
    · obtain ⟨hf, hlt⟩ := ih hnm ho.2 to from_ hto he
      rw [if_pos hf, if_pos hto]
      exact ⟨List.mem_cons_of_mem _ hf, hlt⟩

theorem getElem?_idxOf {l : List Bytes} {a : Bytes} (h : a ∈ l) : l[l.idxOf a]? = some a := by
  have hlt := List.idxOf_lt_length_of_mem h
  rw [List.getElem?_eq_getElem hlt, List.getElem_idxOf hlt]

/-- a strictly increasing function around a cycle is impossible -/
theorem no_cycle (r : Bytes → Nat) (cyc : List Bytes) (hne : cyc ≠ [])
    (h : ∀ i, i < cyc.length → r cyc[i]! < r cyc[(i + 1) % cyc.length]!) : False := by
  have hpos : 0 < cyc.length := List.length_pos_iff.mpr hne
  have key : ∀ i, i < cyc.length → r cyc[0]! + i ≤ r cyc[i]! := by
    intro i
    induction i with
    | zero => intro _; simp
    | succ i ih =>
      intro hi
      have h1 := ih (by omega)
      have h2 := h i (by omega)
      rw [Nat.mod_eq_of_lt hi] at h2
      omega
  have h1 := key (cyc.length - 1) (by omega)
  have h2 := h (cyc.length - 1) (by omega)
  have e : (cyc.length - 1 + 1) % cyc.length = 0 := by
    rw [Nat.sub_add_cancel hpos, Nat.mod_self]
  rw [e] at h2
  omega

end GoDebian.Lemmas.BuildOrder

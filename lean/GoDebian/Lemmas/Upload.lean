/-
  Lemmas about the upload model (Model/Upload.lean): the directory primitives `get`,
  `del`, `put`; the frame of each primitive step (only the named entry changes, the
  destination kind and `outside` never do); what a successful / failing step leaves
  behind; `runFiles` by induction on the list of names; `exec`, which past its checks is
  `runFiles` over `names ++ [ctl]` (`exec_eq`), and `execW`.
-/
import GoDebian.Model.Upload

namespace GoDebian.Lemmas.Upload
open GoDebian GoDebian.Upload

/-! ### directories -/

theorem get_cons (p : Bytes × Node) (d : Dir) (n : Bytes) :
    Upload.get (p :: d) n = if p.1 = n then some p.2 else Upload.get d n := by
  unfold Upload.get
  by_cases h : p.1 = n <;> simp [h]

theorem get_append_single (d : Dir) (n m : Bytes) (x : Node) :
    Upload.get (d ++ [(n, x)]) m = match Upload.get d m with
      | some y => some y
      | none => if n = m then some x else none := by
  induction d with
  | nil => by_cases h : n = m <;> simp [Upload.get, h]
  | cons p d ih =>
    rw [List.cons_append, get_cons, get_cons]
    by_cases h : p.1 = m <;> simp [h, ih]

theorem del_cons (p : Bytes × Node) (d : Dir) (n : Bytes) :
    del (p :: d) n = if p.1 = n then del d n else p :: del d n := by
  unfold del
  by_cases h : p.1 = n <;> simp [h]

theorem get_del_self (d : Dir) (n : Bytes) : Upload.get (del d n) n = none := by
  induction d with
  | nil => rfl
  | cons p d ih =>
    rw [del_cons]
    by_cases h : p.1 = n
    · simp [h, ih]
    · simp [h, get_cons, ih]

theorem get_del_ne (d : Dir) {n m : Bytes} (hne : m ≠ n) : Upload.get (del d n) m = Upload.get d m := by
  induction d with
  | nil => rfl
  | cons p d ih =>
    rw [del_cons]
    by_cases h : p.1 = n
    · have : p.1 ≠ m := fun e => hne (e.symm.trans h)
      subst h
      simp [get_cons, this, ih]
    · simp [h, get_cons, ih]

theorem get_put_self (d : Dir) (n : Bytes) (x : Node) : Upload.get (put d n x) n = some x := by
  unfold put
  rw [get_append_single, get_del_self]
  simp

theorem get_put_ne (d : Dir) {n m : Bytes} (x : Node) (hne : m ≠ n) :
    Upload.get (put d n x) m = Upload.get d m := by
  unfold put
  rw [get_append_single, get_del_ne d hne]
  have : ¬ n = m := fun e => hne e.symm
  cases Upload.get d m <;> simp [this]

/-! ### one step -/

/-- the state after a primitive step differs from the state before at most in the entry
    `n` of the two directories -/
structure Frame (s s' : State) (n : Bytes) : Prop where
  outside : s'.outside = s.outside
  destKind : s'.destKind = s.destKind
  src : ∀ m, m ≠ n → Upload.get s'.src m = Upload.get s.src m
  dest : ∀ m, m ≠ n → Upload.get s'.dest m = Upload.get s.dest m

theorem Frame.refl (s : State) (n : Bytes) : Frame s s n := ⟨rfl, rfl, fun _ _ => rfl, fun _ _ => rfl⟩

/-- a copy changes nothing and fails, or fails on a directory after removing the partial
    destination file, or writes the file and succeeds -/
theorem copyFile_cases (s : State) (n : Bytes) :
    copyFile s n = (s, false) ∨ copyFile s n = ({ s with dest := del s.dest n }, false) ∨
    ∃ c, Upload.get s.src n = some (.file c) ∧
      copyFile s n = ({ s with dest := put s.dest n (.file c) }, true) := by
  unfold copyFile
  split
  · exact .inl rfl
  · split
    · exact .inl rfl
    · split
      · exact .inl rfl
      · split
        · exact .inr (.inl rfl)
        · rename_i c hsrc
          exact .inr (.inr ⟨c, hsrc, rfl⟩)

theorem copyFile_frame (s : State) (n : Bytes) : Frame s (copyFile s n).1 n := by
  rcases copyFile_cases s n with h | h | ⟨c, _, h⟩ <;> rw [h]
  · exact Frame.refl _ _
  · exact ⟨rfl, rfl, fun _ _ => rfl, fun m hm => get_del_ne _ hm⟩
  · exact ⟨rfl, rfl, fun _ _ => rfl, fun m hm => get_put_ne _ _ hm⟩

/-- a move either changes nothing and fails, or transfers the entry and succeeds -/
theorem moveFile_cases (s : State) (n : Bytes) :
    moveFile s n = (s, false) ∨
    ∃ node, Upload.get s.src n = some node ∧
      moveFile s n = ({ s with src := del s.src n, dest := put s.dest n node }, true) := by
  unfold moveFile
  split
  · exact .inl rfl
  · rename_i node hsrc
    split
    · exact .inl rfl
    · dsimp only
      split <;> simp [hsrc]

theorem moveFile_frame (s : State) (n : Bytes) : Frame s (moveFile s n).1 n := by
  rcases moveFile_cases s n with h | ⟨node, _, h⟩ <;> rw [h]
  · exact Frame.refl _ _
  · exact ⟨rfl, rfl, fun m hm => get_del_ne _ hm, fun m hm => get_put_ne _ _ hm⟩

theorem removeFile_frame (s : State) (n : Bytes) : Frame s (removeFile s n).1 n := by
  unfold removeFile
  split
  · exact Frame.refl _ _
  · exact Frame.refl _ _
  · exact ⟨rfl, rfl, fun m hm => get_del_ne _ hm, fun _ _ => rfl⟩

theorem step_frame (op : Op) (s : State) (n : Bytes) : Frame s (step op s n).1 n := by
  cases op
  · exact copyFile_frame s n
  · exact moveFile_frame s n
  · exact removeFile_frame s n

/-- a successful copy: the source is untouched, `n` was there, and the destination now
    holds what the source holds -/
theorem copyFile_ok {s s' : State} {n : Bytes} (h : copyFile s n = (s', true)) :
    s'.src = s.src ∧ Upload.get s'.dest n = Upload.get s.src n := by
  rcases copyFile_cases s n with h' | h' | ⟨c, hsrc, h'⟩ <;> rw [h'] at h
  · cases h
  · cases h
  · cases h
    exact ⟨rfl, by rw [hsrc]; exact get_put_self _ _ _⟩

/-- a successful move: `n` was in the source and is no longer, and the destination holds
    what the source held -/
theorem moveFile_ok {s s' : State} {n : Bytes} (h : moveFile s n = (s', true)) :
    Upload.get s.src n ≠ none ∧ Upload.get s'.src n = none ∧ Upload.get s'.dest n = Upload.get s.src n := by
  rcases moveFile_cases s n with h' | ⟨node, hsrc, h'⟩ <;> rw [h'] at h
  · simp at h
  · simp only [Prod.mk.injEq, and_true] at h
    subst h
    exact ⟨by simp [hsrc], get_del_self _ _, by rw [hsrc]; exact get_put_self _ _ _⟩

/-- a failing copy leaves the source alone and leaves no (new) entry `n` in the
    destination -/
theorem copyFile_fail {s s' : State} {n : Bytes} (h : copyFile s n = (s', false)) :
    s'.src = s.src ∧ (Upload.get s.dest n = none → Upload.get s'.dest n = none) := by
  rcases copyFile_cases s n with h' | h' | ⟨c, _, h'⟩ <;> rw [h'] at h
  · cases h
    exact ⟨rfl, id⟩
  · cases h
    exact ⟨rfl, fun _ => get_del_self _ _⟩
  · cases h

/-- a failing move changes nothing -/
theorem moveFile_fail {s s' : State} {n : Bytes} (h : moveFile s n = (s', false)) : s' = s := by
  rcases moveFile_cases s n with h' | ⟨node, hsrc, h'⟩ <;> rw [h'] at h
  · simp only [Prod.mk.injEq, and_true] at h; exact h.symm
  · simp at h

/-- a failing removal changes nothing -/
theorem removeFile_fail {s s' : State} {n : Bytes} (h : removeFile s n = (s', false)) : s' = s := by
  unfold removeFile at h
  split at h
  · simp only [Prod.mk.injEq, and_true] at h; exact h.symm
  · simp only [Prod.mk.injEq, and_true] at h; exact h.symm
  · simp at h

/-- success of a copy/move step, uniformly: the destination entry is the old source entry,
    which existed; any other source entry is as before -/
theorem step_ok {op : Op} (hop : op ≠ .remove) {s s' : State} {n : Bytes}
    (h : step op s n = (s', true)) :
    Upload.get s'.dest n = Upload.get s.src n ∧ (op = .copy → s'.src = s.src) ∧
    (op = .move → Upload.get s.src n ≠ none ∧ Upload.get s'.src n = none) := by
  cases op
  · have := copyFile_ok h
    exact ⟨this.2, fun _ => this.1, fun e => nomatch e⟩
  · have := moveFile_ok h
    exact ⟨this.2.2, fun e => (nomatch e), fun _ => ⟨this.1, this.2.1⟩⟩
  · exact absurd rfl hop

/-- a failing step of any operation leaves the source directory alone and creates no entry
    `n` in the destination -/
theorem step_fail {op : Op} {s s' : State} {n : Bytes} (h : step op s n = (s', false)) :
    s'.src = s.src ∧ (Upload.get s.dest n = none → Upload.get s'.dest n = none) := by
  cases op
  · exact copyFile_fail h
  · rw [moveFile_fail h]
    exact ⟨rfl, id⟩
  · rw [removeFile_fail h]
    exact ⟨rfl, id⟩

/-! ### the file loop -/

theorem runFiles_nil (op : Op) (s : State) : runFiles op s [] = (s, true) := rfl

theorem runFiles_cons (op : Op) (s : State) (n : Bytes) (rest : List Bytes) :
    runFiles op s (n :: rest) =
      if (step op s n).2 = true then runFiles op (step op s n).1 rest else ((step op s n).1, false) := by
  rw [runFiles]
  rcases hst : step op s n with ⟨s1, b⟩
  cases b <;> simp

theorem runFiles_append (op : Op) (s : State) (a b : List Bytes) :
    runFiles op s (a ++ b) =
      if (runFiles op s a).2 = true then runFiles op (runFiles op s a).1 b else runFiles op s a := by
  induction a generalizing s with
  | nil => rfl
  | cons n rest ih =>
    rw [List.cons_append, runFiles_cons, runFiles_cons]
    by_cases h : (step op s n).2 = true
    · rw [if_pos h, if_pos h]
      exact ih _
    · rw [if_neg h, if_neg h]
      rfl

/-- the loop followed by one more step -/
theorem runFiles_snoc (op : Op) (s : State) (names : List Bytes) (ctl : Bytes) :
    runFiles op s (names ++ [ctl]) =
      if (runFiles op s names).2 = true then step op (runFiles op s names).1 ctl
      else runFiles op s names := by
  rw [runFiles_append]
  split
  · rw [runFiles_cons, runFiles_nil]
    rcases step op (runFiles op s names).1 ctl with ⟨s', b⟩
    cases b <;> rfl
  · rfl

/-- the loop never touches `outside` or the destination kind, and changes only listed
    names -/
theorem runFiles_frame (op : Op) (s : State) (names : List Bytes) :
    (runFiles op s names).1.outside = s.outside ∧
    (runFiles op s names).1.destKind = s.destKind ∧
    ∀ m, m ∉ names → Upload.get (runFiles op s names).1.src m = Upload.get s.src m ∧
                      Upload.get (runFiles op s names).1.dest m = Upload.get s.dest m := by
  induction names generalizing s with
  | nil => exact ⟨rfl, rfl, fun _ _ => ⟨rfl, rfl⟩⟩
  | cons n rest ih =>
    have hf := step_frame op s n
    rw [runFiles_cons]
    split
    · obtain ⟨h1, h2, h3⟩ := ih (step op s n).1
      refine ⟨h1.trans hf.outside, h2.trans hf.destKind, fun m hm => ?_⟩
      obtain ⟨hmn, hmr⟩ := List.ne_and_not_mem_of_not_mem_cons hm
      exact ⟨(h3 m hmr).1.trans (hf.src m hmn), (h3 m hmr).2.trans (hf.dest m hmn)⟩
    · refine ⟨hf.outside, hf.destKind, fun m hm => ?_⟩
      obtain ⟨hmn, -⟩ := List.ne_and_not_mem_of_not_mem_cons hm
      exact ⟨hf.src m hmn, hf.dest m hmn⟩

/-- a successful run of moves found every listed name at the source -/
theorem runFiles_move_src {s s' : State} {names : List Bytes}
    (h : runFiles .move s names = (s', true)) : ∀ n ∈ names, Upload.get s.src n ≠ none := by
  induction names generalizing s with
  | nil => exact fun n hn => nomatch hn
  | cons a rest ih =>
    rw [runFiles_cons] at h
    split at h
    · rename_i hb
      have hok := moveFile_ok (Prod.ext rfl hb : step .move s a = (_, true))
      intro n hn
      by_cases hna : n = a
      · exact hna ▸ hok.1
      · rw [← (step_frame .move s a).src n hna]
        exact ih h n ((List.mem_cons.mp hn).resolve_left hna)
    · cases h

/-- after a successful run of copies/moves every listed name is in the destination with
    the entry it had at the source before the run -/
theorem runFiles_ok {op : Op} (hop : op ≠ .remove) {s s' : State} {names : List Bytes}
    (h : runFiles op s names = (s', true)) : ∀ n ∈ names, Upload.get s'.dest n = Upload.get s.src n := by
  induction names generalizing s with
  | nil => exact fun n hn => nomatch hn
  | cons a rest ih =>
    rw [runFiles_cons] at h
    split at h
    · rename_i hb
      have hok := step_ok hop (Prod.ext rfl hb : step op s a = (_, true))
      intro n hn
      by_cases hnr : n ∈ rest
      · -- a later step writes `n`: it reads what the first step left at the source
        rw [ih h n hnr]
        cases op
        · rw [hok.2.1 rfl]
        · by_cases hna : n = a
          · subst hna
            exact absurd (hok.2.2 rfl).2 (runFiles_move_src h n hnr)
          · exact (step_frame .move s a).src n hna
        · exact absurd rfl hop
      · -- only the first step writes `n`
        obtain rfl := (List.mem_cons.mp hn).resolve_right hnr
        have hfr := (runFiles_frame op (step op s n).1 rest).2.2 n hnr
        rw [h] at hfr
        exact hfr.2.trans hok.1
    · cases h

/-! ### `exec` -/

/-- past its three checks `exec` is the loop over the listed names and then the control file -/
theorem exec_eq (op : Op) (s : State) (ctl : Bytes) (names : List Bytes) :
    exec op s ctl names =
      if names.all plain = true ∧ ctl ∉ names ∧ ¬ (op ≠ .remove ∧ s.destKind = .file) then
        ⟨(runFiles op s (names ++ [ctl])).1, (runFiles op s (names ++ [ctl])).2,
          (runFiles op s (names ++ [ctl])).2 && decide (op ≠ .remove)⟩
      else ⟨s, false, false⟩ := by
  rw [runFiles_snoc]
  unfold exec
  by_cases h1 : names.all plain = true
  · by_cases h2 : ctl ∈ names
    · simp [h1, h2]
    · by_cases h3 : op ≠ .remove ∧ s.destKind = .file
      · simp [h1, h2, h3]
      · simp only [h1, h2, h3, List.contains_iff_mem, Bool.not_true, Bool.false_eq_true, if_false,
          not_false_eq_true, and_self, if_true]
        rcases runFiles op s names with ⟨s', b⟩
        cases b
        · rfl
        · dsimp only
          rcases step op s' ctl with ⟨s'', b2⟩
          cases b2 <;> rfl
  · simp [h1]

theorem exec_nonplain (op : Op) (s : State) (ctl : Bytes) (names : List Bytes)
    (h : names.all plain = false) : exec op s ctl names = ⟨s, false, false⟩ := by
  rw [exec_eq, if_neg]
  intro hg
  rw [hg.1] at h
  cases h

theorem exec_self_listing (op : Op) (s : State) (ctl : Bytes) (names : List Bytes)
    (h : names.contains ctl = true) : exec op s ctl names = ⟨s, false, false⟩ := by
  rw [exec_eq, if_neg]
  intro hg
  exact hg.2.1 (List.contains_iff_mem.mp h)

theorem exec_handleDest (op : Op) (s : State) (ctl : Bytes) (names : List Bytes) :
    (exec op s ctl names).handleDest = ((exec op s ctl names).ok && decide (op ≠ .remove)) := by
  rw [exec_eq]
  split <;> rfl

theorem exec_frame (op : Op) (s : State) (ctl : Bytes) (names : List Bytes) :
    (exec op s ctl names).state.outside = s.outside ∧
    ∀ n, n ∉ names ∧ n ≠ ctl →
      Upload.get (exec op s ctl names).state.src n = Upload.get s.src n ∧
      Upload.get (exec op s ctl names).state.dest n = Upload.get s.dest n := by
  rw [exec_eq]
  split
  · have hf := runFiles_frame op s (names ++ [ctl])
    exact ⟨hf.1, fun n hn => hf.2.2 n fun h =>
      (List.mem_append.mp h).elim hn.1 fun h => hn.2 (List.mem_singleton.mp h)⟩
  · exact ⟨rfl, fun _ _ => ⟨rfl, rfl⟩⟩

/-- copy/move ending in success: handle in the destination, every listed file and the
    control file in the destination as they were at the source -/
theorem exec_success {op : Op} (hop : op ≠ .remove) (s : State) (ctl : Bytes) (names : List Bytes)
    (hs : (exec op s ctl names).ok = true) :
    (exec op s ctl names).handleDest = true ∧
    ∀ n ∈ names ++ [ctl], Upload.get (exec op s ctl names).state.dest n = Upload.get s.src n := by
  rw [exec_handleDest, hs]
  rw [exec_eq] at hs ⊢
  split at hs
  · rename_i hg
    rw [if_pos hg]
    exact ⟨by simpa using hop, runFiles_ok hop (Prod.ext rfl hs)⟩
  · cases hs

/-- a failing loop whose last name occurs only there: that name is still at the source, and
    has not appeared in the destination -/
theorem runFiles_fail_last {op : Op} {s s' : State} {names : List Bytes} {ctl : Bytes}
    (hc : ctl ∉ names) (h : runFiles op s (names ++ [ctl]) = (s', false)) :
    Upload.get s'.src ctl = Upload.get s.src ctl ∧
    (Upload.get s.dest ctl = none → Upload.get s'.dest ctl = none) := by
  have hf := (runFiles_frame op s names).2.2 ctl hc
  rw [runFiles_snoc] at h
  split at h
  · obtain ⟨h1, h2⟩ := step_fail h
    exact ⟨by rw [h1]; exact hf.1, fun h0 => h2 (hf.2.trans h0)⟩
  · rw [h] at hf
    exact ⟨hf.1, fun h0 => hf.2.trans h0⟩

/-- a failing Copy, Move or Remove: the control file is at its source as before, and none
    has appeared in the destination -/
theorem exec_failure (op : Op) (s : State) (ctl : Bytes) (names : List Bytes)
    (hf : (exec op s ctl names).ok = false) :
    Upload.get (exec op s ctl names).state.src ctl = Upload.get s.src ctl ∧
    (Upload.get s.dest ctl = none → Upload.get (exec op s ctl names).state.dest ctl = none) := by
  rw [exec_eq] at hf ⊢
  split at hf
  · rename_i hg
    rw [if_pos hg]
    exact runFiles_fail_last hg.2.1 (Prod.ext rfl hf)
  · rename_i hg
    rw [if_neg hg]
    exact ⟨rfl, id⟩

/-! ### one handle, several operations -/

/-- the equation of `execW` -/
theorem execW_some {op : Op} {w w' : World} {t : Nat} {ctl : Bytes} {names : List Bytes} {ok : Bool}
    (h : execW op w t ctl names = some (w', ok)) :
    ∃ s d, t ≠ w.here ∧ w.dirs[w.here]? = some s ∧ w.dirs[t]? = some d ∧
      w' = ⟨(w.dirs.set w.here (exec op ⟨s, .dir, d, false⟩ ctl names).state.src).set t
              (exec op ⟨s, .dir, d, false⟩ ctl names).state.dest,
            if (exec op ⟨s, .dir, d, false⟩ ctl names).handleDest then t else w.here⟩ ∧
      ok = (exec op ⟨s, .dir, d, false⟩ ctl names).ok := by
  unfold execW at h
  split at h
  · cases h
  · rename_i hne
    split at h
    · rename_i s d hs hd
      injection h with h
      injection h with h1 h2
      exact ⟨s, d, hne, hs, hd, h1.symm, h2.symm⟩
    · cases h

end GoDebian.Lemmas.Upload

/-
  `.deb` loading of a package built by the archive specification (`Spec.Ar.build`): the
  entries read back are the members (`readAll_build`), so `plan` selects the members the
  specification names and `load` returns their extensions and the member index.
  Core Lean only.
-/
import GoDebian.Lemmas.Deb
import GoDebian.Lemmas.ArBuild

namespace GoDebian.Lemmas.Deb
open GoDebian GoDebian.Ar GoDebian.Deb GoDebian.Spec.Ar GoDebian.Lemmas.Ar

/-- distinct images: the function is injective on the list -/
theorem eq_of_nodup_map {α β : Type} {f : α → β} {l : List α} (h : (l.map f).Nodup)
    {a b : α} (ha : a ∈ l) (hb : b ∈ l) (hab : f a = f b) : a = b := by
  induction l with
  | nil => cases ha
  | cons x rest ih =>
    rw [List.map_cons, List.nodup_cons] at h
    rcases List.mem_cons.mp ha with rfl | ha' <;> rcases List.mem_cons.mp hb with rfl | hb'
    · rfl
    · exact absurd (hab ▸ List.mem_map.mpr ⟨b, hb', rfl⟩) h.1
    · exact absurd (hab ▸ List.mem_map.mpr ⟨a, ha', rfl⟩) h.1
    · exact ih h.2 ha' hb'

theorem names_of_view {bs : Bytes} {es : List Entry} {ms : List Member}
    (hv : es.map (entryView bs) = ms.map view) : es.map (·.name) = ms.map (·.name) := by
  have := congrArg (List.map View.name) hv
  simpa [List.map_map, Function.comp_def, entryView, view] using this

/-- looking a member up by name in the entries read back: the entry found carries the
    data of the (unique) member of that name -/
theorem find_of_view {bs : Bytes} {es : List Entry} {ms : List Member}
    (hv : es.map (entryView bs) = ms.map view) (hnd : (ms.map (·.name)).Nodup)
    {m : Member} (hm : m ∈ ms) :
    ∃ b, find m.name es = some b ∧ Ar.data bs b = m.data := by
  have hnames := names_of_view hv
  have hmem : m.name ∈ es.map (·.name) := by
    rw [hnames]; exact List.mem_map.mpr ⟨m, hm, rfl⟩
  obtain ⟨e, he, hen⟩ := List.mem_map.mp hmem
  cases hf : find m.name es with
  | none =>
    unfold find at hf
    rw [List.find?_eq_none] at hf
    exact absurd (by simpa using hen) (hf e he)
  | some b =>
    refine ⟨b, rfl, ?_⟩
    unfold find at hf
    have hb := List.mem_of_find?_eq_some hf
    have hbn : b.name = m.name := by simpa using List.find?_some hf
    have : entryView bs b ∈ ms.map view := by
      rw [← hv]; exact List.mem_map.mpr ⟨b, hb, rfl⟩
    obtain ⟨m', hm', hvm⟩ := List.mem_map.mp this
    have hn' : m'.name = m.name := by
      have := congrArg View.name hvm
      simp only [view, entryView] at this
      rw [this, hbn]
    have : m' = m := eq_of_nodup_map hnd hm' hm hn'
    subst this
    have := congrArg View.data hvm
    simpa [view, entryView] using this.symm

/-- the members selected by a predicate on the name, on the entries read back -/
theorem filter_of_view {bs : Bytes} {es : List Entry} {ms : List Member}
    (hv : es.map (entryView bs) = ms.map view) (q : Bytes → Bool) {n : Bytes}
    (h : (ms.filter (fun m => q m.name)).map (·.name) = [n]) :
    ∃ c, es.filter (fun e => q e.name) = [c] ∧ c.name = n := by
  have hnames := names_of_view hv
  have e1 : (es.filter (fun e => q e.name)).map (·.name) = (es.map (·.name)).filter q := by
    rw [List.filter_map]; rfl
  have e2 : (ms.filter (fun m => q m.name)).map (·.name) = (ms.map (·.name)).filter q := by
    rw [List.filter_map]; rfl
  rw [hnames, ← e2, h] at e1
  cases hl : es.filter (fun e => q e.name) with
  | nil => rw [hl] at e1; cases e1
  | cons c rest =>
    rw [hl] at e1
    cases rest with
    | nil =>
      simp only [List.map_cons, List.map_nil, List.cons.injEq, and_true] at e1
      exact ⟨c, rfl, e1⟩
    | cons _ _ => simp at e1

/-- `plan` on a well-formed package built by the archive specification -/
theorem plan_built (ms : List Member) {ctlName dataName : Bytes}
    (hw : ms.all wfMember = true) (hnd : (ms.map (·.name)).Nodup)
    (hb : ∃ m ∈ ms, m.name = sDebianBinary ∧ m.data = [50, 46, 48, 10])
    (hc : (ms.filter (fun m => Str.hasPrefix m.name sControlDot)).map (·.name) = [ctlName])
    (hd : (ms.filter (fun m => Str.hasPrefix m.name sDataDot)).map (·.name) = [dataName])
    (htc : isTarfile ctlName = true) (htd : isTarfile dataName = true) :
    ∃ p, plan (build ms) = .ok p ∧ p.members.map (·.name) = ms.map (·.name) ∧
      p.control.name = ctlName ∧ p.data.name = dataName := by
  obtain ⟨es, hr, hv⟩ := readAll_build ms hw
  have hnames := names_of_view hv
  obtain ⟨m, hm, hmn, hmd⟩ := hb
  obtain ⟨b, hfb, hdb⟩ := find_of_view hv hnd hm
  obtain ⟨c, hcs, hcn⟩ := filter_of_view hv (fun n => Str.hasPrefix n sControlDot) hc
  obtain ⟨d, hds, hdn⟩ := filter_of_view hv (fun n => Str.hasPrefix n sDataDot) hd
  have hdata : Ar.data (build ms) b = [50, 46, 48, 10] := hdb.trans hmd
  refine ⟨⟨es, c, d⟩, plan_ok_iff.mpr ⟨hr, hnames ▸ hnd, ⟨b, 3, hmn ▸ hfb, ?_, ?_⟩, hcs, hds,
    hcn ▸ htc, hdn ▸ htd⟩, hnames, hcn, hdn⟩
  · rw [hdata]
    rfl
  · rw [hdata]
    rfl

theorem load_built (ms : List Member) (schema : Codec.Schema) {ctlName dataName content : Bytes}
    {rec : List Codec.Val}
    (hw : ms.all wfMember = true) (hnd : (ms.map (·.name)).Nodup)
    (hb : ∃ m ∈ ms, m.name = sDebianBinary ∧ m.data = [50, 46, 48, 10])
    (hc : (ms.filter (fun m => Str.hasPrefix m.name sControlDot)).map (·.name) = [ctlName])
    (hd : (ms.filter (fun m => Str.hasPrefix m.name sDataDot)).map (·.name) = [dataName])
    (htc : isTarfile ctlName = true) (htd : isTarfile dataName = true)
    (es : List (Bytes × Option Bytes)) {n : Bytes}
    (hfind : es.find? (fun (n, _) => Path.clean n = sControl) = some (n, some content))
    (hu : Codec.unmarshal schema content = .ok rec) :
    ∃ l, load (build ms) schema (.entries es false) true = .ok l ∧ l.control = rec ∧
      l.controlExt = ctlName.drop 8 ∧ l.dataExt = dataName.drop 5 ∧
      l.members = ms.map (·.name) := by
  obtain ⟨p, hp, hpn, hpc, hpd⟩ := plan_built ms hw hnd hb hc hd htc htd
  refine ⟨_, load_intro hp hfind hu, rfl, ?_, ?_, hpn⟩
  · rw [hpc]
  · rw [hpd]

end GoDebian.Lemmas.Deb

/-
  C09 lemmas on `convertToParagraph`: every field emits one item (`emit`) and the paragraph is
  assembled from the items (`assemble`).  The keys emitted form a sublist of the schema's known
  keys; so a key known once is emitted once, and what is stored under it is what its field
  rendered (`lookup_convert`).
-/
import GoDebian.Model.Codec
import GoDebian.Spec.Codec
import GoDebian.Lemmas.CodecPara
import GoDebian.Lemmas.CodecValue

namespace GoDebian.Lemmas.Codec
open GoDebian GoDebian.Deb822 GoDebian.Codec

/-! ### what one field emits -/

/-- the loop state of `convertToParagraph`: embedded paragraph, order, values, omitted names -/
abbrev St := Paragraph × List Bytes × List (Bytes × Bytes) × List Bytes

/-- what one field contributes to the paragraph -/
inductive Emit where
  | none                              -- skipped ("-"), or anonymous and not a Paragraph
  | found (p : Paragraph)             -- the embedded Paragraph
  | omit (k : Bytes)                  -- optional field with an empty rendering
  | write (k data : Bytes)

def emit (fv : FieldDesc × Val) : Res Emit :=
  if fv.1.anonymous then
    (match fv.1.kind, fv.2 with
     | .para, .para p => .ok (.found p)
     | .para, _ => .ok (.found Deb822.empty)
     | _, _ => .ok .none)
  else if fv.1.key = [45] then .ok .none
  else match marshalValue 16 fv.1.kind fv.1.delim fv.2 with
    | .error e => .error e
    | .ok data =>
      if data.isEmpty && !fv.1.required then .ok (.omit fv.1.key)
      else .ok (.write fv.1.key (if fv.1.multiline then 10 :: data else data))

def applyEmit (st : St) : Emit → St
  | .none => st
  | .found p => (p, st.2.1, st.2.2.1, st.2.2.2)
  | .omit k => (st.1, st.2.1, st.2.2.1, st.2.2.2 ++ [k])
  | .write k d => (st.1, st.2.1 ++ [k], insert k d st.2.2.1, st.2.2.2)

/-! ### the state after a list of emissions -/

def writes : List Emit → List (Bytes × Bytes)
  | [] => []
  | .write k d :: es => (k, d) :: writes es
  | _ :: es => writes es

def omits : List Emit → List Bytes
  | [] => []
  | .omit k :: es => k :: omits es
  | _ :: es => omits es

def lastFound (p : Paragraph) : List Emit → Paragraph
  | [] => p
  | .found q :: es => lastFound q es
  | _ :: es => lastFound p es

def insertAll (ws : List (Bytes × Bytes)) (vs : List (Bytes × Bytes)) : List (Bytes × Bytes) :=
  ws.foldl (fun acc w => insert w.1 w.2 acc) vs

theorem foldl_applyEmit (es : List Emit) (st : St) :
    es.foldl applyEmit st =
      (lastFound st.1 es, st.2.1 ++ (writes es).map Prod.fst, insertAll (writes es) st.2.2.1,
        st.2.2.2 ++ omits es) := by
  induction es generalizing st with
  | nil => simp [lastFound, writes, omits, insertAll]
  | cons e es ih =>
    rw [List.foldl_cons, ih]
    cases e <;> simp [applyEmit, lastFound, writes, omits, insertAll]

theorem mem_writes {k d : Bytes} {es : List Emit} : (k, d) ∈ writes es ↔ Emit.write k d ∈ es := by
  induction es with
  | nil => simp [writes]
  | cons e es ih => cases e <;> simp [writes, ih]

theorem mem_wkeys {k : Bytes} {es : List Emit} :
    k ∈ (writes es).map Prod.fst ↔ ∃ d, Emit.write k d ∈ es := by
  simp only [List.mem_map, Prod.exists, exists_and_right, exists_eq_right, mem_writes]

theorem mem_omits {k : Bytes} {es : List Emit} : k ∈ omits es ↔ Emit.omit k ∈ es := by
  induction es with
  | nil => simp [omits]
  | cons e es ih => cases e <;> simp [omits, ih]

/-- when everything written under `k` is `d`: the value inserted, if any, else what was there -/
theorem lookup_insertAll {k d : Bytes} {ws : List (Bytes × Bytes)}
    (hu : ∀ d', (k, d') ∈ ws → d' = d) (vs : List (Bytes × Bytes)) :
    lookup k (insertAll ws vs) = if (k, d) ∈ ws then some d else lookup k vs := by
  induction ws generalizing vs with
  | nil => rfl
  | cons w ws ih =>
    obtain ⟨k', d'⟩ := w
    show lookup k (insertAll ws (insert k' d' vs)) = _
    rw [ih (fun d'' h => hu d'' (List.mem_cons_of_mem _ h)), lookup_insert]
    by_cases hin : (k, d) ∈ ws
    · rw [if_pos hin, if_pos (List.mem_cons_of_mem _ hin)]
    · rw [if_neg hin]
      by_cases hk : k' = k
      · subst hk
        rw [if_pos rfl, hu d' List.mem_cons_self, if_pos List.mem_cons_self]
      · rw [if_neg hk, if_neg]
        intro h
        rcases List.mem_cons.mp h with h | h
        · cases h
          exact hk rfl
        · exact hin h

/-! ### the base paragraph: the embedded one minus the omitted fields -/

def KeysListed (p : Paragraph) : Prop := ∀ k, (lookup k p.values).isSome → k ∈ p.order

def baseOf (found : Paragraph) (omitted : List Bytes) : Paragraph :=
  found.order.foldl (fun b k =>
    if omitted.contains k then b else b.set k (found.get k)) Deb822.empty

/-- setting keys one after the other is the second loop of `Update`, as long as the names
    seen are those that have a value -/
theorem foldl_set_eq_upd (q : Paragraph) (l : List Bytes) (acc : Paragraph × List Bytes)
    (hinv : ∀ k, k ∈ acc.2 ↔ (lookup k acc.1.values).isSome = true) :
    l.foldl (fun b k => b.set k (q.get k)) acc.1 = (l.foldl (updStep q) acc).1 := by
  induction l generalizing acc with
  | nil => rfl
  | cons el l ih =>
    have hv : (updStep q acc el).1.values = insert el (q.get el) acc.1.values := by
      unfold updStep
      by_cases hs : el ∈ acc.2 <;> simp [hs]
    have hstep : acc.1.set el (q.get el) = (updStep q acc el).1 := by
      unfold Paragraph.set updStep
      cases hl : lookup el acc.1.values with
      | none =>
        have : acc.2.contains el = false := by
          rw [List.contains_eq_mem, decide_eq_false_iff_not, hinv, hl]
          simp
        simp only [this]
        rfl
      | some x =>
        have : acc.2.contains el = true := by
          rw [List.contains_eq_mem, decide_eq_true_eq, hinv, hl]
          rfl
        simp only [this]
        rfl
    rw [List.foldl_cons, List.foldl_cons, hstep]
    refine ih (updStep q acc el) fun k => ?_
    show k ∈ el :: acc.2 ↔ _
    rw [hv, lookup_insert, List.mem_cons]
    by_cases he : el = k
    · simp [he]
    · have : ¬ k = el := fun e => he e.symm
      simp [he, this, hinv k]

/-- the base is an `Update` of the empty paragraph, so the lemmas on `Update` speak about it -/
theorem baseOf_eq_update (found : Paragraph) (om : List Bytes) :
    baseOf found om =
      Deb822.empty.update ⟨found.order.filter (fun k => !om.contains k), found.values⟩ := by
  rw [update_eq]
  show _ = (List.foldl _ (Deb822.empty, []) _).1
  rw [← foldl_set_eq_upd _ _ (Deb822.empty, []) (by simp [Deb822.empty, lookup]), List.foldl_filter]
  unfold baseOf
  congr 1
  funext b k
  cases om.contains k <;> rfl

theorem lookup_baseOf (found : Paragraph) (om : List Bytes) (k : Bytes) :
    lookup k (baseOf found om).values =
      if k ∈ found.order ∧ k ∉ om then some (found.get k) else none := by
  rw [baseOf_eq_update, lookup_update]
  simp [Deb822.empty, List.mem_filter, Paragraph.get]

theorem mem_order_baseOf (found : Paragraph) (om : List Bytes) (k : Bytes) :
    k ∈ (baseOf found om).order ↔ k ∈ found.order ∧ k ∉ om := by
  rw [baseOf_eq_update, mem_order_update]
  simp [Deb822.empty, List.mem_filter]

theorem order_baseOf (found : Paragraph) (om : List Bytes) (hnd : found.order.Nodup) :
    (baseOf found om).order = found.order.filter (fun k => !om.contains k) := by
  rw [baseOf_eq_update, order_update, newKeys_of_nodup (hnd.sublist List.filter_sublist)]
  simp [Deb822.empty]

/-! ### the paragraph assembled from the emissions -/

def assemble (es : List Emit) : Paragraph :=
  (baseOf (lastFound Deb822.empty es) (omits es)).update
    ⟨(writes es).map Prod.fst, insertAll (writes es) []⟩

/-- a loop that emits and applies, errors being final, collects the emissions first -/
theorem foldl_emit {step : Res St → FieldDesc × Val → Res St}
    (herr : ∀ e fv, step (.error e) fv = .error e)
    (hok : ∀ st fv, step (.ok st) fv = (emit fv).map (applyEmit st)) :
    ∀ (l : List (FieldDesc × Val)) (st : St),
      l.foldl step (.ok st) = (mapRes emit l).map (fun es => es.foldl applyEmit st) := by
  have herr' : ∀ (l : List (FieldDesc × Val)) e, l.foldl step (.error e) = .error e := by
    intro l e
    induction l with
    | nil => rfl
    | cons a l ih => rw [List.foldl_cons, herr, ih]
  intro l
  induction l with
  | nil => intro st; rfl
  | cons a l ih =>
    intro st
    rw [List.foldl_cons, hok]
    cases ha : emit a with
    | error e => rw [mapRes_cons_error ha]; exact herr' l e
    | ok x =>
      rw [mapRes_cons_ok ha]
      show l.foldl step (.ok (applyEmit st x)) = _
      rw [ih]
      cases mapRes emit l <;> rfl

theorem convert_eq_assemble (s : Schema) (r : List Val) :
    convertToParagraph s r = (mapRes emit (s.zip r)).map assemble := by
  unfold convertToParagraph
  dsimp only
  rw [foldl_emit (fun _ _ => rfl) (fun st fv => ?_)]
  · cases mapRes emit (s.zip r) with
    | error e => rfl
    | ok es => simp only [Except.map, foldl_applyEmit, assemble, baseOf, List.nil_append]
  · -- the loop body is `emit`, then `applyEmit`: both sides by the same cases
    obtain ⟨found, order, values, omitted⟩ := st
    obtain ⟨f, v⟩ := fv
    unfold emit
    dsimp only
    cases f.anonymous
    · rw [if_neg Bool.false_ne_true, if_neg Bool.false_ne_true]
      by_cases hk : f.key = [45]
      · rw [if_pos hk, if_pos hk]
        rfl
      · rw [if_neg hk, if_neg hk]
        cases marshalValue 16 f.kind f.delim v with
        | error e => rfl
        | ok data =>
          dsimp only
          by_cases hc : (data.isEmpty && !f.required) = true
          · rw [if_pos hc, if_pos hc]
            rfl
          · rw [if_neg hc, if_neg hc]
            rfl
    · rw [if_pos rfl, if_pos rfl]
      cases f.kind with
      | para => cases v <;> rfl
      | _ => rfl

theorem convert_spec {s : Schema} {r : List Val} {p : Paragraph}
    (h : convertToParagraph s r = .ok p) :
    ∃ es, mapRes emit (s.zip r) = .ok es ∧ p = assemble es := by
  rw [convert_eq_assemble] at h
  cases hes : mapRes emit (s.zip r) with
  | error e => rw [hes] at h; cases h
  | ok es =>
    rw [hes] at h
    cases h
    exact ⟨es, rfl, rfl⟩

/-- what the assembled paragraph holds under a key: what was written; else what the embedded
    paragraph lists, unless omitted -/
theorem lookup_assemble (es : List Emit) (k : Bytes) :
    lookup k (assemble es).values =
      if k ∈ (writes es).map Prod.fst then some ((lookup k (insertAll (writes es) [])).getD [])
      else if k ∈ (lastFound Deb822.empty es).order ∧ k ∉ omits es
        then some ((lastFound Deb822.empty es).get k) else none := by
  unfold assemble
  rw [lookup_update]
  by_cases hw : k ∈ (writes es).map Prod.fst
  · rw [if_pos hw, if_pos hw]; rfl
  · rw [if_neg hw, if_neg hw]
    by_cases hb : k ∈ (lastFound Deb822.empty es).order ∧ k ∉ omits es
    · rw [if_pos ((mem_order_baseOf _ _ _).mpr hb), if_pos hb, Paragraph.get, lookup_baseOf,
        if_pos hb]
      rfl
    · rw [if_neg (mt (mem_order_baseOf _ _ _).mp hb), if_neg hb]

theorem convert_inv {s : Schema} {r : List Val} {p : Paragraph}
    (h : convertToParagraph s r = .ok p) (k : Bytes) :
    k ∈ p.order ↔ (lookup k p.values).isSome = true := by
  obtain ⟨es, _, rfl⟩ := convert_spec h
  exact update_inv _ _ k

open GoDebian.Spec.Codec

/-! ### `emit`, case by case -/

def known (f : FieldDesc) : Bool := !f.anonymous && f.key != [45]

theorem known_iff {f : FieldDesc} : known f = true ↔ f.anonymous = false ∧ f.key ≠ [45] := by
  simp [known]

theorem emit_known {fv : FieldDesc × Val} (ha : fv.1.anonymous = false) (hk : fv.1.key ≠ [45]) :
    emit fv = (marshalValue 16 fv.1.kind fv.1.delim fv.2).map fun data =>
      if (data.isEmpty && !fv.1.required) = true then .omit fv.1.key
      else .write fv.1.key (if fv.1.multiline then 10 :: data else data) := by
  unfold emit
  rw [if_neg (by simp [ha]), if_neg hk]
  cases marshalValue 16 fv.1.kind fv.1.delim fv.2 with
  | error e => rfl
  | ok data => dsimp only [Except.map]; split <;> rfl

theorem emit_of_marshal {fv : FieldDesc × Val} {data : Bytes} (ha : fv.1.anonymous = false)
    (hk : fv.1.key ≠ [45]) (hm : marshalValue 16 fv.1.kind fv.1.delim fv.2 = .ok data) :
    emit fv = .ok (if (data.isEmpty && !fv.1.required) = true then .omit fv.1.key
      else .write fv.1.key (if fv.1.multiline then 10 :: data else data)) := by
  rw [emit_known ha hk, hm]
  rfl

theorem emit_error {fv : FieldDesc × Val} {e : Err} (h : emit fv = .error e) :
    fv.1.anonymous = false ∧ fv.1.key ≠ [45] ∧
      marshalValue 16 fv.1.kind fv.1.delim fv.2 = .error e := by
  by_cases h1 : fv.1.anonymous = true
  · unfold emit at h
    rw [if_pos h1] at h
    split at h <;> cases h
  · have h1' : fv.1.anonymous = false := by simpa using h1
    by_cases h2 : fv.1.key = [45]
    · unfold emit at h
      rw [if_neg h1, if_pos h2] at h
      cases h
    · rw [emit_known h1' h2] at h
      cases hm : marshalValue 16 fv.1.kind fv.1.delim fv.2 with
      | error e' =>
        rw [hm] at h
        cases h
        exact ⟨h1', h2, rfl⟩
      | ok data => rw [hm] at h; cases h

theorem emit_inv {fv : FieldDesc × Val} {x : Emit} (h : emit fv = .ok x) :
    (fv.1.anonymous = true ∧ (x = .none ∨ ∃ q, x = .found q)) ∨
    (fv.1.anonymous = false ∧ fv.1.key = [45] ∧ x = .none) ∨
    (fv.1.anonymous = false ∧ fv.1.key ≠ [45] ∧ ∃ data,
      marshalValue 16 fv.1.kind fv.1.delim fv.2 = .ok data ∧
      x = (if (data.isEmpty && !fv.1.required) = true then .omit fv.1.key
        else .write fv.1.key (if fv.1.multiline then 10 :: data else data))) := by
  by_cases h1 : fv.1.anonymous = true
  · refine Or.inl ⟨h1, ?_⟩
    unfold emit at h
    rw [if_pos h1] at h
    split at h <;> cases h
    · exact Or.inr ⟨_, rfl⟩
    · exact Or.inr ⟨_, rfl⟩
    · exact Or.inl rfl
  · have h1' : fv.1.anonymous = false := by simpa using h1
    by_cases h2 : fv.1.key = [45]
    · refine Or.inr (Or.inl ⟨h1', h2, ?_⟩)
      unfold emit at h
      rw [if_neg h1, if_pos h2] at h
      cases h; rfl
    · refine Or.inr (Or.inr ⟨h1', h2, ?_⟩)
      rw [emit_known h1' h2] at h
      cases hm : marshalValue 16 fv.1.kind fv.1.delim fv.2 with
      | error e => rw [hm] at h; cases h
      | ok data =>
        rw [hm] at h
        cases h
        exact ⟨data, rfl, rfl⟩

theorem emit_write {fv : FieldDesc × Val} {k d : Bytes} (h : emit fv = .ok (.write k d)) :
    fv.1.anonymous = false ∧ fv.1.key ≠ [45] ∧ k = fv.1.key ∧ ∃ data,
      marshalValue 16 fv.1.kind fv.1.delim fv.2 = .ok data ∧
      (data.isEmpty && !fv.1.required) = false ∧
      d = (if fv.1.multiline then 10 :: data else data) := by
  rcases emit_inv h with ⟨_, h1 | ⟨q, h1⟩⟩ | ⟨_, _, h1⟩ | ⟨ha, hk, data, hm, hx⟩
  · cases h1
  · cases h1
  · cases h1
  · by_cases hc : (data.isEmpty && !fv.1.required) = true
    · rw [if_pos hc] at hx; cases hx
    · rw [if_neg hc] at hx
      cases hx
      exact ⟨ha, hk, rfl, data, hm, by simpa using hc, rfl⟩

theorem emit_found {fv : FieldDesc × Val} {q : Paragraph} (h : emit fv = .ok (.found q)) :
    fv.1.anonymous = true := by
  rcases emit_inv h with ⟨h0, _⟩ | ⟨_, _, h1⟩ | ⟨ha, hk, data, hm, hx⟩
  · exact h0
  · cases h1
  · split at hx <;> cases hx

theorem convert_error {s : Schema} {r : List Val} {e : Err}
    (h : convertToParagraph s r = .error e) :
    ∃ fv ∈ s.zip r, fv.1.anonymous = false ∧ fv.1.key ≠ [45] ∧
      marshalValue 16 fv.1.kind fv.1.delim fv.2 = .error e := by
  rw [convert_eq_assemble] at h
  cases hes : mapRes emit (s.zip r) with
  | ok es => rw [hes] at h; cases h
  | error e' =>
    rw [hes] at h
    cases h
    obtain ⟨fv, hfv, hem⟩ := mapRes_error hes
    exact ⟨fv, hfv, emit_error hem⟩

theorem mem_zip_left {α β : Type} {a : α} {b : β} {l : List α} {l' : List β}
    (h : (a, b) ∈ l.zip l') : a ∈ l := (List.of_mem_zip h).1

/-! ### the keys emitted are the known keys -/

theorem knownKeys_cons (a : FieldDesc) (s : Schema) :
    knownKeys (a :: s) = if known a = true then a.key :: knownKeys s else knownKeys s := by
  unfold knownKeys known
  by_cases h : (!a.anonymous && a.key != [45]) = true
  · rw [if_pos h, List.filter_cons, if_pos h]; rfl
  · rw [if_neg h, List.filter_cons, if_neg h]

theorem mem_knownKeys {f : FieldDesc} {s : Schema} (hf : f ∈ s) (ha : f.anonymous = false)
    (hk : f.key ≠ [45]) : f.key ∈ knownKeys s := by
  unfold knownKeys
  exact List.mem_map_of_mem (List.mem_filter.mpr ⟨hf, by simp [ha, hk]⟩)

theorem of_mem_knownKeys {k : Bytes} {s : Schema} (h : k ∈ knownKeys s) :
    ∃ f ∈ s, f.anonymous = false ∧ f.key ≠ [45] ∧ f.key = k := by
  unfold knownKeys at h
  obtain ⟨f, hf, hk⟩ := List.mem_map.mp h
  obtain ⟨hf1, hf2⟩ := List.mem_filter.mp hf
  have := known_iff.mp hf2
  exact ⟨f, hf1, this.1, this.2, hk⟩

theorem count_knownKeys_le (s : Schema) (k : Bytes) :
    (knownKeys s).count k ≤ (s.map FieldDesc.key).count k := by
  induction s with
  | nil => simp [knownKeys]
  | cons a s ih =>
    rw [knownKeys_cons, List.map_cons, List.count_cons]
    split
    · rw [List.count_cons]; omega
    · omega

/-- the key an item is emitted under -/
def Emit.key : Emit → Option Bytes
  | .write k _ => some k
  | .omit k => some k
  | _ => Option.none

theorem emit_key {fv : FieldDesc × Val} {e : Emit} (h : emit fv = .ok e) :
    e.key = if known fv.1 = true then some fv.1.key else none := by
  rcases emit_inv h with ⟨ha, rfl | ⟨q, rfl⟩⟩ | ⟨ha, hk, rfl⟩ | ⟨ha, hk, data, _, rfl⟩
  · simp [known, ha, Emit.key]
  · simp [known, ha, Emit.key]
  · simp [known, ha, hk, Emit.key]
  · rw [if_pos (known_iff.mpr ⟨ha, hk⟩)]
    split <;> rfl

theorem emitKeys_sublist {s : Schema} {r : List Val} {es : List Emit}
    (h : mapRes emit (s.zip r) = .ok es) : (es.filterMap Emit.key).Sublist (knownKeys s) := by
  induction s generalizing r es with
  | nil => cases h; exact .slnil
  | cons f s ih =>
    cases r with
    | nil => cases h; exact List.nil_sublist _
    | cons v r =>
      rw [List.zip_cons_cons] at h
      cases he : emit (f, v) with
      | error e => rw [mapRes_cons_error he] at h; cases h
      | ok e =>
        rw [mapRes_cons_ok he] at h
        cases hes : mapRes emit (s.zip r) with
        | error e' => rw [hes] at h; cases h
        | ok es' =>
          rw [hes] at h
          cases h
          rw [List.filterMap_cons, emit_key he, knownKeys_cons]
          by_cases hkn : known f = true
          · simp only [hkn, if_true]
            exact (ih hes).cons_cons _
          · simp only [hkn]
            exact ih hes

/-- whatever is written or omitted is written or omitted under a known key -/
theorem emitted_key_known {s : Schema} {r : List Val} {es : List Emit}
    (h : mapRes emit (s.zip r) = .ok es) {e : Emit} (he : e ∈ es) {k : Bytes}
    (hk : e.key = some k) : k ∈ knownKeys s :=
  (emitKeys_sublist h).subset (List.mem_filterMap.mpr ⟨e, he, hk⟩)

/-- a name that occurs at most once among the keys of `l` names at most one member -/
theorem eq_of_count_filterMap_le_one {α β : Type} [BEq β] [LawfulBEq β] {f : α → Option β}
    {l : List α} {k : β} (h : (l.filterMap f).count k ≤ 1) {a b : α} (ha : a ∈ l) (hb : b ∈ l)
    (hfa : f a = some k) (hfb : f b = some k) : a = b := by
  induction l with
  | nil => cases ha
  | cons x l ih =>
    have hmem : ∀ {y}, y ∈ l → f y = some k → 0 < (l.filterMap f).count k := fun hy hfy =>
      List.count_pos_iff.mpr (List.mem_filterMap.mpr ⟨_, hy, hfy⟩)
    rw [List.filterMap_cons] at h
    rcases List.mem_cons.mp ha with rfl | ha' <;> rcases List.mem_cons.mp hb with rfl | hb'
    · rfl
    · rw [hfa, List.count_cons_self] at h
      have := hmem hb' hfb
      omega
    · rw [hfb, List.count_cons_self] at h
      have := hmem ha' hfa
      omega
    · refine ih (Nat.le_trans ?_ h) ha' hb'
      split
      · exact Nat.le_refl _
      · exact List.count_le_count_cons

/-- what a field with a key known once emits is all that is emitted under its key -/
theorem emit_unique {s : Schema} {r : List Val} {es : List Emit}
    (h : mapRes emit (s.zip r) = .ok es) {k : Bytes} (hu : (knownKeys s).count k ≤ 1)
    {e e' : Emit} (he : e ∈ es) (he' : e' ∈ es) (hk : e.key = some k) (hk' : e'.key = some k) :
    e = e' :=
  eq_of_count_filterMap_le_one (Nat.le_trans ((emitKeys_sublist h).count_le _) hu) he he' hk hk'

/-! ### what is stored for a known field -/

theorem lookup_convert {s : Schema} {r : List Val} {p : Paragraph}
    (h : convertToParagraph s r = .ok p) {f : FieldDesc} {v : Val} (hf : (f, v) ∈ s.zip r)
    (ha : f.anonymous = false) (hk : f.key ≠ [45]) {data : Bytes}
    (hd : marshalValue 16 f.kind f.delim v = .ok data)
    (hu : (knownKeys s).count f.key ≤ 1) :
    lookup f.key p.values = stored f data := by
  obtain ⟨es, hes, rfl⟩ := convert_spec h
  obtain ⟨e, he, hem⟩ := all₂_mem_left (mapRes_ok hes) hf
  -- whatever else is emitted under this key is `e`
  have huniq : ∀ e' ∈ es, e'.key = some f.key → e' = e := fun e' he' hk' =>
    emit_unique hes hu he' he hk' (by rw [emit_key hem, if_pos (known_iff.mpr ⟨ha, hk⟩)])
  rw [emit_of_marshal (fv := (f, v)) ha hk hd] at hem
  rw [lookup_assemble, stored]
  by_cases hc : (data.isEmpty && !f.required) = true
  · rw [if_pos hc] at hem ⊢
    cases hem
    have hnw : f.key ∉ (writes es).map Prod.fst := fun hw => by
      obtain ⟨d, hw⟩ := mem_wkeys.mp hw
      cases huniq _ hw rfl
    rw [if_neg hnw, if_neg (fun hb => hb.2 (mem_omits.mpr he))]
  · rw [if_neg hc] at hem ⊢
    cases hem
    rw [if_pos (mem_wkeys.mpr ⟨_, he⟩),
      lookup_insertAll (fun d' hd' => by cases huniq _ (mem_writes.mp hd') rfl; rfl),
      if_pos (mem_writes.mpr he)]
    rfl

/-- which fields are written -/
theorem mem_order_convert {s : Schema} {r : List Val} {p : Paragraph}
    (h : convertToParagraph s r = .ok p) {f : FieldDesc} {v : Val} (hf : (f, v) ∈ s.zip r)
    (ha : f.anonymous = false) (hk : f.key ≠ [45]) {data : Bytes}
    (hd : marshalValue 16 f.kind f.delim v = .ok data)
    (hu : (knownKeys s).count f.key ≤ 1) :
    f.key ∈ p.order ↔ (f.required = true ∨ data ≠ []) := by
  rw [convert_inv h, lookup_convert h hf ha hk hd hu, stored_isSome]

end GoDebian.Lemmas.Codec

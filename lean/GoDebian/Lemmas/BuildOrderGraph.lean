/-
  Lemmas about the graph `OrderDSCForBuild` builds (Model/BuildOrder.lean): the node list
  (`nodeOrder`), the binary → source map (`sourceMapping`), which edges there are
  (`edges`), and which errors `edges` can produce (only the nil-dereference panic of
  `GetPossibilities` on a substvar-shaped possibility, never `fuel`).
-/
import GoDebian.Model.BuildOrder

namespace GoDebian.Lemmas.BuildOrder
open GoDebian GoDebian.BuildOrder

/-- Decidable equality of results, so that examples about `Res` values can be closed by
    `decide`. -/
instance instDecidableEqRes {α : Type} [DecidableEq α] : DecidableEq (Res α)
  | .ok x, .ok y => if h : x = y then isTrue (h ▸ rfl) else isFalse (fun e => h (Except.ok.inj e))
  | .error x, .error y =>
    if h : x = y then isTrue (h ▸ rfl) else isFalse (fun e => h (Except.error.inj e))
  | .ok _, .error _ => isFalse (fun e => nomatch e)
  | .error _, .ok _ => isFalse (fun e => nomatch e)

/-! ### folds that collect lists in `Res` -/

theorem foldlM_collect_ok {σ α β : Type} (f : σ → Res α) (g : σ → α → List β) :
    ∀ (l : List σ) (init r : List β),
      l.foldlM (fun acc s => (f s).map (fun x => acc ++ g s x)) init = .ok r →
      ∀ p, p ∈ r ↔ p ∈ init ∨ ∃ s ∈ l, ∃ x, f s = .ok x ∧ p ∈ g s x := by
  intro l
  induction l with
  | nil =>
    intro init r h p
    have : init = r := by simpa [pure, Except.pure] using h
    subst this
    simp
  | cons a l ih =>
    intro init r h p
    rw [List.foldlM_cons] at h
    cases hfa : f a with
    | error e => simp [hfa, Except.map, bind, Except.bind] at h
    | ok x =>
      simp only [hfa, Except.map, bind, Except.bind] at h
      rw [ih _ _ h p, List.mem_append]
      constructor
      · rintro ((h1 | h1) | ⟨s, hs, y, hy, hp⟩)
        · exact .inl h1
        · exact .inr ⟨a, List.mem_cons_self, x, hfa, h1⟩
        · exact .inr ⟨s, List.mem_cons_of_mem _ hs, y, hy, hp⟩
      · rintro (h1 | ⟨s, hs, y, hy, hp⟩)
        · exact .inl (.inl h1)
        · rcases List.mem_cons.mp hs with e | e
          · subst e
            rw [hfa] at hy
            cases hy
            exact .inl (.inr hp)
          · exact .inr ⟨s, e, y, hy, hp⟩

/-- a failing fold failed at one of its steps -/
theorem foldlM_error {σ β : Type} (F : β → σ → Res β) :
    ∀ (l : List σ) (acc : β) (e : Err), l.foldlM F acc = .error e →
      ∃ acc', ∃ s ∈ l, F acc' s = .error e := by
  intro l
  induction l with
  | nil => exact fun acc e h => nomatch h
  | cons s l ih =>
    intro acc e h
    rw [List.foldlM_cons] at h
    cases hs : F acc s with
    | error e' =>
      rw [hs] at h
      exact ⟨acc, s, List.mem_cons_self, hs.trans h⟩
    | ok acc' =>
      rw [hs] at h
      obtain ⟨a, s', hs', h'⟩ := ih acc' e h
      exact ⟨a, s', List.mem_cons_of_mem _ hs', h'⟩

theorem foldlM_collect_error {σ α β : Type} (f : σ → Res α) (g : σ → α → List β)
    (l : List σ) (init : List β) (e : Err)
    (h : l.foldlM (fun acc s => (f s).map (fun x => acc ++ g s x)) init = .error e) :
    ∃ s ∈ l, f s = .error e := by
  obtain ⟨acc, s, hs, h'⟩ := foldlM_error _ l init e h
  refine ⟨s, hs, ?_⟩
  cases hfs : f s with
  | error e' =>
    simp only [hfs, Except.map] at h'
    cases h'
    rfl
  | ok x =>
    simp only [hfs, Except.map] at h'
    cases h'

/-! ### errors -/

theorem firstMatch_error (a : Dep.Arch) :
    ∀ (rel : Dep.Relation) (e : Err), Dep.firstMatch a rel = .error e → e = .panic := by
  intro rel
  induction rel with
  | nil => intro e h; simp [Dep.firstMatch] at h
  | cons p rest ih =>
    intro e h
    rw [Dep.firstMatch] at h
    split at h
    · exact ih e h
    · unfold Dep.possMatches at h
      cases hp : p.archs with
      | none => simp [hp] at h; exact h.symm
      | some s =>
        simp only [hp] at h
        cases hm : s.matches a
        · simp only [hm] at h; exact ih e h
        · simp [hm] at h

theorem getPossibilities_error (a : Dep.Arch) (d : Dep.Dependency) (e : Err)
    (h : Dep.getPossibilities d a = .error e) : e = .panic := by
  unfold Dep.getPossibilities at h
  obtain ⟨acc, rel, -, h'⟩ := foldlM_error _ d [] e h
  split at h'
  · rename_i e' hf
    cases h'
    exact firstMatch_error a rel _ hf
  · cases h'
  · cases h'

theorem wanted_error {s : Src} {arch : Dep.Arch} {e : Err} (h : wanted s arch = .error e) :
    e = .panic := by
  unfold wanted at h
  rcases foldlM_collect_error (fun d => Dep.getPossibilities d arch)
    (fun _ ps => ps.map (·.name)) s.deps [] e h with ⟨d, _, hd⟩
  exact getPossibilities_error arch d e hd

theorem edges_error {srcs : List Src} {arch : Dep.Arch} {e : Err} (h : edges srcs arch = .error e) :
    e = .panic := by
  unfold edges at h
  rcases foldlM_collect_error (fun s => wanted s arch)
    (fun s ws => ws.filterMap (fun w => (mapGet w (sourceMapping srcs)).map
      (fun from_ => (s.source, from_)))) srcs [] e h with ⟨s, _, hs⟩
  exact wanted_error hs

/-! ### which edges -/

theorem edges_spec {srcs : List Src} {arch : Dep.Arch} {es : List (Bytes × Bytes)}
    (he : edges srcs arch = .ok es) (to from_ : Bytes) :
    (to, from_) ∈ es ↔ ∃ s ∈ srcs, s.source = to ∧ ∃ ws, wanted s arch = .ok ws ∧
      ∃ w ∈ ws, mapGet w (sourceMapping srcs) = some from_ := by
  unfold edges at he
  rw [foldlM_collect_ok (fun s => wanted s arch)
    (fun s ws => ws.filterMap (fun w => (mapGet w (sourceMapping srcs)).map
      (fun from_ => (s.source, from_)))) srcs [] es he (to, from_)]
  constructor
  · rintro (h | ⟨s, hs, ws, hw, hp⟩)
    · cases h
    · rcases List.mem_filterMap.mp hp with ⟨w, hw', hm⟩
      rcases Option.map_eq_some_iff.mp hm with ⟨f, hf, hpair⟩
      have h1 : s.source = to := congrArg Prod.fst hpair
      have h2 : f = from_ := congrArg Prod.snd hpair
      exact ⟨s, hs, h1, ws, hw, w, hw', h2 ▸ hf⟩
  · rintro ⟨s, hs, hto, ws, hw, w, hw', hm⟩
    refine .inr ⟨s, hs, ws, hw, List.mem_filterMap.mpr ⟨w, hw', ?_⟩⟩
    rw [hm, ← hto]
    rfl

/-! ### the binary → source map only has sources of `srcs` as values -/

theorem mapGet_mem {k v : Bytes} :
    ∀ m : List (Bytes × Bytes), mapGet k m = some v → (k, v) ∈ m := by
  intro m
  induction m with
  | nil => intro h; simp [mapGet] at h
  | cons p m ih =>
    intro h
    rcases p with ⟨k', v'⟩
    rw [mapGet] at h
    split at h
    · rename_i hk
      cases h
      subst hk
      exact List.mem_cons_self
    · exact List.mem_cons_of_mem _ (ih h)

theorem mem_mapInsert {k v : Bytes} {p : Bytes × Bytes} :
    ∀ m : List (Bytes × Bytes), p ∈ mapInsert k v m → p = (k, v) ∨ p ∈ m := by
  intro m
  induction m with
  | nil => intro h; simp [mapInsert] at h; exact .inl h
  | cons q m ih =>
    intro h
    rcases q with ⟨k', v'⟩
    rw [mapInsert] at h
    split at h
    · rcases List.mem_cons.mp h with e | e
      · exact .inl e
      · exact .inr (List.mem_cons_of_mem _ e)
    · rcases List.mem_cons.mp h with e | e
      · exact .inr (e ▸ List.mem_cons_self)
      · rcases ih e with e' | e'
        · exact .inl e'
        · exact .inr (List.mem_cons_of_mem _ e')

theorem mem_insertBinaries {src : Bytes} {p : Bytes × Bytes} :
    ∀ (bins : List Bytes) (m : List (Bytes × Bytes)),
      p ∈ bins.foldl (fun m b => mapInsert b src m) m → p.2 = src ∨ p ∈ m := by
  intro bins
  induction bins with
  | nil => intro m h; exact .inr h
  | cons b bins ih =>
    intro m h
    rw [List.foldl_cons] at h
    rcases ih _ h with e | e
    · exact .inl e
    · rcases mem_mapInsert m e with e' | e'
      · exact .inl (by rw [e'])
      · exact .inr e'

theorem mem_sourceMapping_aux {p : Bytes × Bytes} :
    ∀ (l : List Src) (m : List (Bytes × Bytes)),
      p ∈ l.foldl (fun m s => s.binaries.foldl (fun m b => mapInsert b s.source m) m) m →
      p ∈ m ∨ ∃ s ∈ l, s.source = p.2 := by
  intro l
  induction l with
  | nil => intro m h; exact .inl h
  | cons s l ih =>
    intro m h
    rw [List.foldl_cons] at h
    rcases ih _ h with e | ⟨s', hs', e⟩
    · rcases mem_insertBinaries s.binaries m e with e' | e'
      · exact .inr ⟨s, List.mem_cons_self, e'.symm⟩
      · exact .inl e'
    · exact .inr ⟨s', List.mem_cons_of_mem _ hs', e⟩

theorem sourceMapping_value {srcs : List Src} {w from_ : Bytes}
    (h : mapGet w (sourceMapping srcs) = some from_) : ∃ s ∈ srcs, s.source = from_ := by
  rcases mem_sourceMapping_aux srcs [] (mapGet_mem _ h) with e | e
  · cases e
  · exact e

/-! ### the node list -/

theorem nodeOrder_aux (l : List Src) :
    ∀ o : List Bytes, o.Nodup →
      (l.foldl (fun o s => if o.contains s.source then o else o ++ [s.source]) o).Nodup ∧
      ∀ n, n ∈ l.foldl (fun o s => if o.contains s.source then o else o ++ [s.source]) o ↔
        n ∈ o ∨ n ∈ l.map (·.source) := by
  induction l with
  | nil => exact fun o ho => ⟨ho, fun n => by simp⟩
  | cons s l ih =>
    intro o ho
    -- one step keeps `Nodup` and adds exactly `s.source`
    have hstep : (if o.contains s.source then o else o ++ [s.source]).Nodup ∧
        ∀ n, n ∈ (if o.contains s.source then o else o ++ [s.source]) ↔ n ∈ o ∨ n = s.source := by
      by_cases hc : o.contains s.source = true
      · rw [if_pos hc]
        exact ⟨ho, fun n => ⟨.inl, fun h => h.elim id (· ▸ List.contains_iff_mem.mp hc)⟩⟩
      · rw [if_neg hc]
        refine ⟨(List.perm_append_singleton _ _).nodup_iff.mpr (List.nodup_cons.mpr ⟨?_, ho⟩),
          fun n => by rw [List.mem_append, List.mem_singleton]⟩
        exact mt List.contains_iff_mem.mpr hc
    rw [List.foldl_cons, List.map_cons]
    refine ⟨(ih _ hstep.1).1, fun n => ?_⟩
    rw [(ih _ hstep.1).2 n, hstep.2 n, List.mem_cons, or_assoc]

theorem nodeOrder_nodup (srcs : List Src) : (nodeOrder srcs).Nodup :=
  (nodeOrder_aux srcs [] List.nodup_nil).1

theorem mem_nodeOrder_iff_map {srcs : List Src} {n : Bytes} :
    n ∈ nodeOrder srcs ↔ n ∈ srcs.map (·.source) := by
  unfold nodeOrder
  rw [(nodeOrder_aux srcs [] List.nodup_nil).2 n, or_iff_right List.not_mem_nil]

theorem mem_nodeOrder {srcs : List Src} {n : Bytes} :
    n ∈ nodeOrder srcs ↔ ∃ s ∈ srcs, s.source = n :=
  mem_nodeOrder_iff_map.trans List.mem_map

/-- every edge comes from a node -/
theorem edges_from_node {srcs : List Src} {arch : Dep.Arch} {es : List (Bytes × Bytes)}
    (he : edges srcs arch = .ok es) (to from_ : Bytes) (h : (to, from_) ∈ es) :
    from_ ∈ nodeOrder srcs := by
  rcases (edges_spec he to from_).mp h with ⟨_, _, _, _, _, w, _, hm⟩
  exact mem_nodeOrder.mpr (sourceMapping_value hm)

/-- every edge goes to a node -/
theorem edges_to_node {srcs : List Src} {arch : Dep.Arch} {es : List (Bytes × Bytes)}
    (he : edges srcs arch = .ok es) (to from_ : Bytes) (h : (to, from_) ∈ es) :
    to ∈ nodeOrder srcs := by
  rcases (edges_spec he to from_).mp h with ⟨s, hs, hto, _⟩
  exact mem_nodeOrder.mpr ⟨s, hs, hto⟩

end GoDebian.Lemmas.BuildOrder

/-
  C10 lemmas, part 4: a whole paragraph — `decodeFields` over a converted struct schema,
  one field at a time.  Core Lean only.
-/
import GoDebian.Spec.DocsValue
import GoDebian.Lemmas.DocsValue

namespace GoDebian.Lemmas.Docs
open GoDebian GoDebian.Deb822 GoDebian.Codec GoDebian.Spec.DocsValue
open GoDebian.Spec.Docs GoDebian.Extracted.Schemas

instance (spec : List Req) (fs : List Field) (m : DocModel) (p : Paragraph) :
    Decidable (Carries spec fs m p) :=
  inferInstanceAs (Decidable (∀ f ∈ fs, lookup (Bytes.ofString f.key) p.values =
    if inTable spec f.key then (m f.key).map (fun vl => valueText vl.1 vl.2) else none))

/-! ### one field of the decoder -/

/-- what `decodeFields` does with field `f` on an untouched struct: it leaves `w` there -/
def StepOK (p : Paragraph) (f : FieldDesc) (w : Val) : Prop :=
  (∀ sub, f.kind ≠ .nested sub) ∧ f.key ≠ [45] ∧
  ((f.anonymous = true ∧ f.kind ≠ .para ∧ w = .zero) ∨
   (f.anonymous = true ∧ f.kind = .para ∧ lookup f.key p.values = none ∧ f.required = false ∧
      w = .para p) ∨
   (f.anonymous = false ∧ lookup f.key p.values = none ∧ f.required = false ∧ w = .zero) ∨
   (f.anonymous = false ∧ ∃ value, lookup f.key p.values = some value ∧
      decodeValue 16 f.kind f.delim f.strip .zero value = .ok w))

theorem decodeFields_step {p : Paragraph} {f : FieldDesc} {w : Val} (h : StepOK p f w)
    (fuel : Nat) (fs : Schema) :
    decodeFields (fuel+1) p (f :: fs) [] = (decodeFields fuel p fs []).map (w :: ·) := by
  obtain ⟨hn, h45, hc⟩ := h
  rw [decodeFields]
  simp only [List.headD_nil, List.tail_nil]
  have hnest : (match f.kind with
      | .nested sub => (decodeFields fuel p sub []).map Val.record
      | _ => .ok Val.zero) = .ok .zero := by
    cases hk : f.kind <;> first | rfl | exact absurd hk (hn _)
  simp only [h45, if_false]
  rcases hc with ⟨ha, hk, rfl⟩ | ⟨ha, hk, hl, hr, rfl⟩ | ⟨ha, hl, hr, rfl⟩ | ⟨ha, value, hl, hv⟩
  · simp only [ha, if_true]
  · simp only [ha, if_true, hk, hl, hr, Bool.false_eq_true, if_false]
  · simp only [ha, Bool.false_eq_true, if_false, hl, hr]
  · simp only [ha, Bool.false_eq_true, if_false, hl, hv]

theorem decodeFields_all (p : Paragraph) : ∀ (s : Schema) (ws : List Val) (fuel : Nat),
    s.length = ws.length → (∀ fw ∈ s.zip ws, StepOK p fw.1 fw.2) → s.length < fuel →
    decodeFields fuel p s [] = .ok ws := by
  intro s
  induction s with
  | nil =>
    intro ws fuel hlen _ hfuel
    cases ws with
    | cons => simp at hlen
    | nil =>
      cases fuel with
      | zero => simp at hfuel
      | succ n => simp [decodeFields]
  | cons f s ih =>
    intro ws fuel hlen hstep hfuel
    cases ws with
    | nil => simp at hlen
    | cons w ws =>
      cases fuel with
      | zero => simp at hfuel
      | succ n =>
        rw [decodeFields_step (hstep (f, w) (by simp)),
          ih ws n (by simpa using hlen)
            (fun fw hfw => hstep fw (by rw [List.zip_cons_cons]; exact List.mem_cons_of_mem _ hfw))
            (by simp at hfuel; omega)]
        rfl

/-! ### the converted kinds -/

theorem toKindL_plain (cs : List Char) (k : Kind) (h : toKindL cs = some k) :
    ∀ sub, k ≠ .nested sub := by
  intro sub
  unfold toKindL at h
  split at h
  all_goals first
    | (cases h; done)
    | (cases h; intro hc; cases hc)
    | (cases hr : toKindL _ <;> rw [hr] at h <;> cases h; intro hc; cases hc)

theorem toSchema_cons {g : Field} {gs : List Field} {t : Schema} (h : toSchema (g :: gs) = some t) :
    ∃ f t', toDesc g = some f ∧ toSchema gs = some t' ∧ t = f :: t' := by
  rw [toSchema] at h
  cases hf : toDesc g with
  | none => rw [hf] at h; cases h
  | some f =>
    cases ht : toSchema gs with
    | none => rw [hf, ht] at h; cases h
    | some t' =>
      rw [hf, ht] at h
      cases h
      exact ⟨f, t', rfl, rfl, rfl⟩

theorem toSchema_mem {gs : List Field} {t : Schema} (h : toSchema gs = some t) {g : Field}
    (hg : g ∈ gs) : ∃ f ∈ t, toDesc g = some f := by
  induction gs generalizing t with
  | nil => cases hg
  | cons x gs ih =>
    obtain ⟨f, t', hf, ht', rfl⟩ := toSchema_cons h
    rcases List.mem_cons.mp hg with rfl | hg
    · exact ⟨f, by simp, hf⟩
    · obtain ⟨f', hf', hd⟩ := ih ht' hg
      exact ⟨f', List.mem_cons_of_mem _ hf', hd⟩

/-! ### the table -/

theorem inTable_spec {spec : List Req} {key : String} (h : inTable spec key = true) :
    ∃ r ∈ spec, r.deb = key := by
  simp only [inTable, List.any_eq_true, beq_iff_eq] at h
  exact h

theorem inTable_of_mem {spec : List Req} {r : Req} (h : r ∈ spec) : inTable spec r.deb = true := by
  simp only [inTable, List.any_eq_true, beq_iff_eq]
  exact ⟨r, h, rfl⟩

theorem eq_of_filter_one {α : Type} {q : α → Bool} {l : List α} (h : (l.filter q).length = 1)
    {a b : α} (ha : a ∈ l) (hb : b ∈ l) (hqa : q a = true) (hqb : q b = true) : a = b := by
  have ha' : a ∈ l.filter q := List.mem_filter.mpr ⟨ha, hqa⟩
  have hb' : b ∈ l.filter q := List.mem_filter.mpr ⟨hb, hqb⟩
  cases hf : l.filter q with
  | nil => rw [hf] at h; simp at h
  | cons x rest =>
    rw [hf] at h ha' hb'
    have : rest = [] := by cases rest with | nil => rfl | cons => simp at h
    subst this
    simp only [List.mem_singleton] at ha' hb'
    rw [ha', hb']

/-- the one struct field with the key of a table row is the one that decodes it -/
theorem fieldOK_of_key {spec : List Req} {fs : List Field} (hok : schemaOK spec (some fs) = true)
    {r : Req} (hr : r ∈ spec) {g : Field} (hg : g ∈ fs) (hk : g.key = r.deb) :
    fieldOK r g = true := by
  simp only [schemaOK, List.all_eq_true, Bool.and_eq_true, beq_iff_eq, List.any_eq_true] at hok
  obtain ⟨hone, g', hg', hok'⟩ := hok r hr
  have hk' : g'.key = r.deb := by
    simp only [fieldOK, Bool.and_eq_true, beq_iff_eq] at hok'
    exact hok'.1.1.2
  have := eq_of_filter_one (q := fun f => f.key == r.deb) hone hg hg' (by simpa using hk)
    (by simpa using hk')
  rw [this]
  exact hok'

theorem exists_fieldOK {spec : List Req} {fs : List Field} (hok : schemaOK spec (some fs) = true)
    {r : Req} (hr : r ∈ spec) : ∃ g ∈ fs, fieldOK r g = true := by
  simp only [schemaOK, List.all_eq_true, Bool.and_eq_true, List.any_eq_true] at hok
  exact (hok r hr).2

theorem fieldOK_spec {r : Req} {g : Field} (h : fieldOK r g = true) :
    g.name = r.go ∧ g.key = r.deb ∧ g.anonymous = false := by
  simp only [fieldOK, Bool.and_eq_true, beq_iff_eq, Bool.not_eq_eq_eq_not, Bool.not_true] at h
  exact ⟨h.1.1.1, h.1.1.2, h.1.2⟩

/-! ### one struct field of a document -/

theorem step_field {spec : List Req} {fs : List Field} {m : DocModel} {p : Paragraph}
    (hok : schemaOK spec (some fs) = true) (hfits : docFits spec (some fs) = true)
    (hm : wfModel spec m) (hreq : ∀ f ∈ fs, f.required = true → (m f.key).isSome = true)
    (hp : Carries spec fs m p) {g : Field} (hg : g ∈ fs) {f : FieldDesc} (hf : toDesc g = some f) :
    StepOK p f (fieldVal spec m p g) := by
  simp only [docFits, Bool.and_eq_true, List.all_eq_true, bne_iff_ne, ne_eq, Bool.or_eq_true,
    Bool.not_eq_eq_eq_not, Bool.not_true] at hfits
  obtain ⟨⟨_, hkeys⟩, hstrips⟩ := hfits
  obtain ⟨h45, hrt⟩ := hkeys g hg
  have hlook := hp g hg
  obtain ⟨k, hk, rfl⟩ := toDesc_some hf
  simp only [StepOK, FieldDesc.kind, FieldDesc.key, FieldDesc.anonymous, FieldDesc.required,
    FieldDesc.delim, FieldDesc.strip]
  refine ⟨toKindL_plain _ _ hk, h45, ?_⟩
  -- an anonymous field is not in the table
  have hanon : g.anonymous = true → inTable spec g.key = false := by
    intro ha
    cases ht : inTable spec g.key with
    | false => rfl
    | true =>
      obtain ⟨r, hr, hrk⟩ := inTable_spec ht
      have := (fieldOK_spec (fieldOK_of_key hok hr hg hrk.symm)).2.2
      rw [ha] at this; cases this
  cases ha : g.anonymous with
  | true =>
    have hnt := hanon ha
    have hreqf : g.required = false := by
      cases hr : g.required with
      | false => rfl
      | true =>
        rcases hrt with h | h
        · rw [hr] at h; cases h
        · rw [hnt] at h; cases h
    rw [hnt] at hlook
    simp only [Bool.false_eq_true, if_false] at hlook
    simp only [fieldVal, ha, if_true, hk]
    cases k with
    | para => exact Or.inr (Or.inl ⟨by simp, by simp, hlook, hreqf, rfl⟩)
    | _ => exact Or.inl ⟨by simp, by simp, rfl⟩
  | false =>
    refine Or.inr (Or.inr ?_)
    cases ht : inTable spec g.key with
    | false =>
      have hreqf : g.required = false := by
        cases hr : g.required with
        | false => rfl
        | true =>
          rcases hrt with h | h
          · rw [hr] at h; cases h
          · rw [ht] at h; cases h
      rw [ht] at hlook
      simp only [Bool.false_eq_true, if_false] at hlook
      simp only [fieldVal, ha, Bool.false_eq_true, if_false, ht]
      exact Or.inl ⟨by simp, hlook, hreqf, by simp⟩
    | true =>
      rw [ht] at hlook
      simp only [if_true] at hlook
      obtain ⟨r, hr, hrk⟩ := inTable_spec ht
      have hfo := fieldOK_of_key hok hr hg hrk.symm
      simp only [fieldVal, ha, Bool.false_eq_true, if_false, ht, if_true]
      cases hmk : m g.key with
      | none =>
        rw [hmk] at hlook
        have hreqf : g.required = false := by
          cases hr' : g.required with
          | false => rfl
          | true => have := hreq g hg hr'; rw [hmk] at this; cases this
        exact Or.inl ⟨by simp, hlook, hreqf, by simp⟩
      | some vl =>
        obtain ⟨v, l⟩ := vl
        rw [hmk] at hlook
        refine Or.inr ⟨by simp, valueText v l, hlook, ?_⟩
        obtain ⟨hsh, hwf⟩ := hm r hr v l (by rw [hrk]; exact hmk)
        have hst : stripFits r.shape (Bytes.ofString g.strip) = true := by
          rcases hstrips r hr g hg with h | h
          · rw [hfo] at h; cases h
          · exact h
        exact decode_fits v l (hsh ▸ fits_of_fieldOK hfo hf hst) hwf

/-- the whole struct -/
theorem decode_fields {spec : List Req} {fs : List Field} {m : DocModel} {p : Paragraph}
    (hok : schemaOK spec (some fs) = true) (hfits : docFits spec (some fs) = true)
    (hm : wfModel spec m) (hreq : ∀ f ∈ fs, f.required = true → (m f.key).isSome = true)
    (hp : Carries spec fs m p) :
    ∀ (gs : List Field) (t : Schema), (∀ g ∈ gs, g ∈ fs) → toSchema gs = some t →
      t.length = gs.length ∧ ∀ fw ∈ t.zip (gs.map (fieldVal spec m p)), StepOK p fw.1 fw.2 := by
  intro gs
  induction gs with
  | nil =>
    intro t _ ht
    simp only [toSchema, Option.some.injEq] at ht
    subst ht
    simp
  | cons g gs ih =>
    intro t hsub ht
    obtain ⟨f, t', hf, ht', rfl⟩ := toSchema_cons ht
    obtain ⟨hlen, hsteps⟩ := ih t' (fun x hx => hsub x (List.mem_cons_of_mem _ hx)) ht'
    refine ⟨by simp [hlen], ?_⟩
    intro fw hfw
    rw [List.map_cons, List.zip_cons_cons] at hfw
    rcases List.mem_cons.mp hfw with rfl | hfw
    · exact step_field hok hfits hm hreq hp (hsub g (by simp)) hf
    · exact hsteps fw hfw

theorem decode_document {spec : List Req} {fs : List Field} {s : Schema} {m : DocModel}
    {p : Paragraph} (hok : schemaOK spec (some fs) = true)
    (hfits : docFits spec (some fs) = true) (hs : toSchema fs = some s) (hm : wfModel spec m)
    (hreq : ∀ f ∈ fs, f.required = true → (m f.key).isSome = true) (hp : Carries spec fs m p) :
    decodeStruct p s [] = .ok (fs.map (fieldVal spec m p)) := by
  obtain ⟨hlen, hsteps⟩ := decode_fields hok hfits hm hreq hp fs s (fun _ h => h) hs
  have hshort : fs.length < 100000 := by
    simp only [docFits, Bool.and_eq_true, decide_eq_true_eq] at hfits
    exact hfits.1.1.2
  exact decodeFields_all p s _ _ (by simp [hlen]) hsteps (by omega)

/-- … read off at the struct field the table names -/
theorem view_at {spec : List Req} {fs : List Field} {m : DocModel} {p : Paragraph}
    (hok : schemaOK spec (some fs) = true) {r : Req} (hr : r ∈ spec) :
    ∃ (i : Nat) (g : Field), fs[i]? = some g ∧ g.name = r.go ∧ g.key = r.deb ∧
      (fs.map (fieldVal spec m p))[i]? =
        some (match m r.deb with | some (v, _) => view v | none => .zero) := by
  obtain ⟨g, hg, hfo⟩ := exists_fieldOK hok hr
  obtain ⟨hname, hkey, hanon⟩ := fieldOK_spec hfo
  obtain ⟨i, hi⟩ := List.getElem?_of_mem hg
  refine ⟨i, g, hi, hname, hkey, ?_⟩
  rw [List.getElem?_map, hi]
  simp only [Option.map_some, fieldVal, hanon, Bool.false_eq_true, if_false, hkey,
    inTable_of_mem hr, if_true]
  cases m r.deb with
  | none => rfl
  | some vl => rfl

end GoDebian.Lemmas.Docs

/-
  What `render` produces, with the choice stream abstracted away: the contents of the
  physical lines of a rendered document follow the grammar `BodyC` (comment lines,
  field lines, continuation lines, runs of empty lines between paragraphs), surrounded by
  empty lines; every line terminator is LF or CRLF (`AllEol`).  Core Lean only.
-/
import GoDebian.Lemmas.Deb822ReadLines

namespace GoDebian.Lemmas.Deb822ReadLayout
open GoDebian GoDebian.Deb822 GoDebian.Spec.Deb822 GoDebian.Lemmas.Deb822ReadLines

/-! ### the grammar of line contents -/

/-- the white space `Spec.Deb822.trailing` may put at the end of a line: nothing, blank,
    tab, two blanks, U+00A0, U+0085, U+2003, U+2028, U+3000 (UTF-8), VT, FF -/
def trailAlts : List Bytes :=
  [[], [32], [9], [32, 32], [194, 160], [194, 133], [226, 128, 131], [226, 128, 168],
   [227, 128, 128], [11], [12]]

def Trail (t : Bytes) : Prop := t ∈ trailAlts
def Pad (p : Bytes) : Prop := p = [32] ∨ p = [] ∨ p = [32, 32] ∨ p = [9]

/-- a comment line -/
def CommentC (c : Bytes) : Prop := ∃ r, c = 35 :: r

/-- the continuation line for the logical line `x` -/
def ContC (x c : Bytes) : Prop :=
  ∃ m t, (m = 32 ∨ m = 9) ∧ Trail t ∧ c = m :: ((if x.isEmpty then [46] else x) ++ t)

/-- the field's own line -/
def FieldC (f : Field) (c : Bytes) : Prop :=
  ∃ pad t, Pad pad ∧ Trail t ∧
    c = f.name ++ [58] ++ (if f.first.isEmpty then [] else pad) ++ f.first ++ t

inductive ContsC : List Bytes → List Bytes → Prop
  | nil : ContsC [] []
  | comment {xs cl : List Bytes} {c : Bytes} : CommentC c → ContsC xs cl → ContsC xs (c :: cl)
  | cons {x : Bytes} {xs cl : List Bytes} {c : Bytes} :
      ContC x c → ContsC xs cl → ContsC (x :: xs) (c :: cl)

inductive FieldLC (f : Field) : List Bytes → Prop
  | comment {cl : List Bytes} {c : Bytes} : CommentC c → FieldLC f cl → FieldLC f (c :: cl)
  | line {cl : List Bytes} {c : Bytes} : FieldC f c → ContsC f.conts cl → FieldLC f (c :: cl)

inductive ParaC : Para → List Bytes → Prop
  | nil : ParaC [] []
  | cons {f : Field} {fs : Para} {a b : List Bytes} :
      FieldLC f a → ParaC fs b → ParaC (f :: fs) (a ++ b)

/-- a non-empty sequence of paragraphs separated by one or more empty lines -/
inductive BodyC : Doc → List Bytes → Prop
  | one {p : Para} {cl : List Bytes} : ParaC p cl → BodyC [p] cl
  | cons {p q : Para} {d : Doc} {a b : List Bytes} (n : Nat) :
      ParaC p a → BodyC (q :: d) b → BodyC (p :: q :: d) (a ++ List.replicate (n + 1) [] ++ b)

/-! ### well-formedness, unpacked -/

theorem wfCont_iff {c : Bytes} (h : wfCont c = true) :
    Str.trimRightSpace c = c ∧ 10 ∉ c ∧ 13 ∉ c ∧ c ≠ [46] := by
  simpa [wfCont, and_assoc] using h

theorem wfFirst_iff {v : Bytes} (h : wfFirst v = true) :
    Str.trimSpace v = v ∧ 10 ∉ v ∧ 13 ∉ v := by
  simpa [wfFirst, trimmed, and_assoc] using h

theorem wfName_iff {n : Bytes} (h : wfName n = true) :
    n ≠ [] ∧ Str.hasSpaceRune n = false ∧ 58 ∉ n ∧ n.head? ≠ some 35 ∧ 10 ∉ n ∧ 13 ∉ n := by
  simpa [wfName, noSpaceRune, and_assoc] using h

theorem wfField_iff {f : Field} (h : wfField f = true) :
    wfName f.name = true ∧ wfFirst f.first = true ∧ ∀ c ∈ f.conts, wfCont c = true := by
  simpa [wfField, and_assoc] using h

theorem wfPara_iff {p : Para} (h : wfPara p = true) :
    p ≠ [] ∧ (∀ f ∈ p, wfField f = true) ∧ nodupNames (p.map (·.name)) = true := by
  simpa [wfPara, and_assoc] using h

/-! ### the choice-stream primitives -/

theorem eol_spec (cs : Choices) : Eol (eol cs).1 := by
  unfold eol
  simp only
  split
  · exact Or.inl rfl
  · exact Or.inr rfl

theorem trailing_spec (cs : Choices) : Trail (trailing cs).1 := by
  unfold trailing Trail
  simp only
  split <;> decide

theorem pad_spec (cs : Choices) : Pad (padAfterColon cs).1 := by
  unfold padAfterColon Pad
  simp only
  split <;> simp

theorem commentLine_spec (cs : Choices) :
    (commentLine cs).1 = [] ∨ ∃ e, Eol e ∧ (commentLine cs).1 = [35, 32, 110, 111, 116, 101] ++ e := by
  unfold commentLine
  simp only
  split
  · exact Or.inr ⟨_, eol_spec _, rfl⟩
  · exact Or.inl rfl

/-- the lines of a comment slot: none, or one comment line -/
def CommentSlot (ps : List LP) : Prop :=
  ps = [] ∨ ∃ c e, ps = [(c, e)] ∧ CommentC c ∧ Eol e ∧ Plain c

theorem commentLine_lines (cs : Choices) :
    ∃ ps : List LP, (commentLine cs).1 = text ps ∧ CommentSlot ps := by
  rcases commentLine_spec cs with h | ⟨e, he, h⟩
  · exact ⟨[], by simp [h, text], Or.inl rfl⟩
  · exact ⟨[([35, 32, 110, 111, 116, 101], e)], by simp [h, text, cat],
      Or.inr ⟨_, _, rfl, ⟨_, rfl⟩, he, by decide⟩⟩

theorem blankLines_spec (n : Nat) (cs : Choices) :
    ∃ ps : List LP, (blankLines n cs).1 = text ps ∧ ps.map Prod.fst = List.replicate n [] ∧
      Clean ps := by
  induction n generalizing cs with
  | zero => exact ⟨[], rfl, rfl, List.forall_mem_nil _⟩
  | succ n ih =>
    obtain ⟨ps, h1, h2, h3⟩ := ih (eol cs).2
    refine ⟨([], (eol cs).1) :: ps, ?_, ?_,
      List.forall_mem_cons.mpr ⟨⟨eol_spec cs, List.not_mem_nil, List.not_mem_nil⟩, h3⟩⟩
    · simp only [blankLines, text_cons, List.nil_append, h1]
    · simp [h2, List.replicate_succ]

/-! ### unfolding the renderers to projections -/

theorem renderConts_cons (c : Bytes) (rest : List Bytes) (cs : Choices) :
    renderConts (c :: rest) cs =
      let r1 := commentLine cs
      let r2 := pick 2 r1.2
      let r3 := trailing r2.2
      let r4 := eol r3.2
      let r5 := renderConts rest r4.2
      (r1.1 ++ (if r2.1 = 0 then [32] else [9]) ++ (if c.isEmpty then [46] else c) ++ r3.1
        ++ r4.1 ++ r5.1, r5.2) := by
  rw [renderConts]

theorem renderField_eq (f : Field) (cs : Choices) :
    renderField f cs =
      let r1 := commentLine cs
      let r2 := padAfterColon r1.2
      let r3 := trailing r2.2
      let r4 := eol r3.2
      let r5 := renderConts f.conts r4.2
      (r1.1 ++ f.name ++ [58] ++ (if f.first.isEmpty then [] else r2.1) ++ f.first ++ r3.1
        ++ r4.1 ++ r5.1, r5.2) := by
  simp only [renderField]

theorem renderPara_cons (f : Field) (rest : Para) (cs : Choices) :
    renderPara (f :: rest) cs =
      let r1 := renderField f cs
      let r2 := renderPara rest r1.2
      (r1.1 ++ r2.1, r2.2) := by
  rw [renderPara]

theorem renderParas_cons (p q : Para) (rest : Doc) (cs : Choices) :
    renderParas (p :: q :: rest) cs =
      let r1 := renderPara p cs
      let r2 := pick 3 r1.2
      let r3 := blankLines (r2.1 + 1) r2.2
      let r4 := renderParas (q :: rest) r3.2
      (r1.1 ++ r3.1 ++ r4.1, r4.2) := by
  rw [renderParas]
  simp

theorem render_eq (d : Doc) (cs : Choices) :
    render d cs =
      let r0 := pick 3 cs
      let r1 := blankLines r0.1 r0.2
      let r2 := renderParas d r1.2
      let r3 := pick 3 r2.2
      let r4 := blankLines r3.1 r3.2
      let r5 := pick 4 r4.2
      if r5.1 = 1 ∧ r3.1 = 0 then dropFinalEol (r1.1 ++ r2.1 ++ r4.1) else r1.1 ++ r2.1 ++ r4.1 := by
  simp only [render]

/-! ### the renderers follow the grammar -/

/-- lines that are not empty and free of CR and LF, with proper terminators -/
def Good (ps : List LP) : Prop := ∀ p ∈ ps, Eol p.2 ∧ Plain p.1 ∧ p.1 ≠ []

theorem Good.clean {ps : List LP} (h : Good ps) : Clean ps :=
  fun p hp => ⟨(h p hp).1, (h p hp).2.1⟩

theorem CommentSlot.good {ps : List LP} (h : CommentSlot ps) : Good ps := by
  rcases h with rfl | ⟨c, e, rfl, ⟨r, rfl⟩, he, hc⟩
  · exact List.forall_mem_nil _
  · exact List.forall_mem_singleton.mpr ⟨he, hc, List.cons_ne_nil _ _⟩

/-- a comment slot in front of lines of a kind `G` that admits comment lines in front -/
theorem CommentSlot.prepend {cm : List LP} (h : CommentSlot cm) {G : List Bytes → Prop}
    (hG : ∀ {c cl}, CommentC c → G cl → G (c :: cl)) {cl : List Bytes} (hcl : G cl) :
    G (cm.map Prod.fst ++ cl) := by
  rcases h with rfl | ⟨c, e, rfl, hc, _⟩
  · exact hcl
  · exact hG hc hcl

theorem marker_spec (k : Nat) :
    ∃ m, (m = 32 ∨ m = 9) ∧ (if k = 0 then [32] else [9] : Bytes) = [m] := by
  split
  · exact ⟨32, Or.inl rfl, rfl⟩
  · exact ⟨9, Or.inr rfl, rfl⟩

theorem body_plain {x : Bytes} (h : Plain x) : Plain (if x.isEmpty then [46] else x) := by
  split
  · decide
  · exact h

theorem trail_plain {t : Bytes} (h : Trail t) : Plain t :=
  (by decide : ∀ t ∈ trailAlts, Plain t) t h

theorem pad_plain {t : Bytes} (h : Pad t) : Plain t := by
  rcases h with rfl | rfl | rfl | rfl <;> decide

/-- one continuation line (with its optional comment) in front of rendered ones -/
theorem conts_step {x : Bytes} {xs : List Bytes} (hx : Plain x)
    {cmb : Bytes} {cm : List LP} (hcm : cmb = text cm) (hcm' : CommentSlot cm)
    (k : Nat) {t e r : Bytes} (ht : Trail t) (he : Eol e) {ps : List LP} (hr : r = text ps)
    (hg : Good ps) (hc : ContsC xs (ps.map Prod.fst)) :
    ∃ ps' : List LP,
      cmb ++ (if k = 0 then [32] else [9]) ++ (if x.isEmpty then [46] else x) ++ t ++ e ++ r
        = text ps' ∧ Good ps' ∧ ContsC (x :: xs) (ps'.map Prod.fst) := by
  obtain ⟨m, hm, hm'⟩ := marker_spec k
  rw [hm']
  refine ⟨cm ++ (m :: ((if x.isEmpty then [46] else x) ++ t), e) :: ps, ?_, ?_, ?_⟩
  · simp [hcm, hr, text_append, text_cons]
  · have hpm : Plain [m] := by rcases hm with rfl | rfl <;> decide
    exact List.forall_mem_append.mpr ⟨hcm'.good, List.forall_mem_cons.mpr
      ⟨⟨he, hpm.append ((body_plain hx).append (trail_plain ht)), List.cons_ne_nil _ _⟩, hg⟩⟩
  · rw [List.map_append, List.map_cons]
    exact hcm'.prepend ContsC.comment (.cons ⟨m, t, hm, ht, rfl⟩ hc)

theorem renderConts_spec (xs : List Bytes) (hwf : ∀ x ∈ xs, wfCont x = true) (cs : Choices) :
    ∃ ps : List LP, (renderConts xs cs).1 = text ps ∧ Good ps ∧ ContsC xs (ps.map Prod.fst) := by
  induction xs generalizing cs with
  | nil => exact ⟨[], rfl, List.forall_mem_nil _, .nil⟩
  | cons x xs ih =>
    rw [renderConts_cons]
    simp only
    obtain ⟨_, hx10, hx13, _⟩ := wfCont_iff (hwf x (by simp))
    obtain ⟨cm, hcm, hcm'⟩ := commentLine_lines cs
    obtain ⟨ps, hps, hg, hc⟩ := ih (fun y hy => hwf y (List.mem_cons_of_mem _ hy))
      (eol (trailing (pick 2 (commentLine cs).2).2).2).2
    exact conts_step ⟨hx10, hx13⟩ hcm hcm' _ (trailing_spec _) (eol_spec _) hps hg hc

/-- the field line (with its optional comment) in front of its continuation lines -/
theorem field_step {f : Field} (hn : Plain f.name) (hv : Plain f.first)
    {cmb : Bytes} {cm : List LP} (hcm : cmb = text cm) (hcm' : CommentSlot cm)
    {pad t e r : Bytes} (hp : Pad pad) (ht : Trail t) (he : Eol e) {ps : List LP}
    (hr : r = text ps) (hg : Good ps) (hc : ContsC f.conts (ps.map Prod.fst)) :
    ∃ ps' : List LP,
      cmb ++ f.name ++ [58] ++ (if f.first.isEmpty then [] else pad) ++ f.first ++ t ++ e ++ r
        = text ps' ∧ Good ps' ∧ FieldLC f (ps'.map Prod.fst) ∧ ps' ≠ [] := by
  refine ⟨cm ++ (f.name ++ [58] ++ (if f.first.isEmpty then [] else pad) ++ f.first ++ t, e) :: ps,
    ?_, ?_, ?_, by simp⟩
  · simp [hcm, hr, text_append, text_cons]
  · have hpad : Plain (if f.first.isEmpty then [] else pad) := by
      split
      · decide
      · exact pad_plain hp
    have hline : Plain (f.name ++ [58] ++ (if f.first.isEmpty then [] else pad) ++ f.first ++ t) :=
      (((hn.append (by decide)).append hpad).append hv).append (trail_plain ht)
    exact List.forall_mem_append.mpr ⟨hcm'.good, List.forall_mem_cons.mpr
      ⟨⟨he, hline, by simp⟩, hg⟩⟩
  · rw [List.map_append, List.map_cons]
    exact hcm'.prepend FieldLC.comment (.line ⟨pad, t, hp, ht, rfl⟩ hc)

theorem renderField_spec (f : Field) (hwf : wfField f = true) (cs : Choices) :
    ∃ ps : List LP, (renderField f cs).1 = text ps ∧ Good ps ∧ FieldLC f (ps.map Prod.fst) ∧
      ps ≠ [] := by
  obtain ⟨hn, hv, hcs⟩ := wfField_iff hwf
  obtain ⟨_, _, _, _, hn10, hn13⟩ := wfName_iff hn
  obtain ⟨_, hv10, hv13⟩ := wfFirst_iff hv
  rw [renderField_eq]
  simp only
  obtain ⟨cm, hcm, hcm'⟩ := commentLine_lines cs
  obtain ⟨ps, hps, hg, hc⟩ := renderConts_spec f.conts hcs
    (eol (trailing (padAfterColon (commentLine cs).2).2).2).2
  exact field_step ⟨hn10, hn13⟩ ⟨hv10, hv13⟩ hcm hcm' (pad_spec _) (trailing_spec _) (eol_spec _) hps hg hc

theorem renderPara_spec (p : Para) (hwf : ∀ f ∈ p, wfField f = true) (cs : Choices) :
    ∃ ps : List LP, (renderPara p cs).1 = text ps ∧ Good ps ∧ ParaC p (ps.map Prod.fst) ∧
      (p ≠ [] → ps ≠ []) := by
  induction p generalizing cs with
  | nil => exact ⟨[], rfl, List.forall_mem_nil _, .nil, fun h => absurd rfl h⟩
  | cons f fs ih =>
    rw [renderPara_cons]
    simp only
    obtain ⟨a, ha, hga, hfa, hne⟩ := renderField_spec f (hwf f (by simp)) cs
    obtain ⟨b, hb, hgb, hpb, _⟩ := ih (fun g hg => hwf g (List.mem_cons_of_mem _ hg))
      (renderField f cs).2
    refine ⟨a ++ b, by rw [ha, hb, text_append], List.forall_mem_append.mpr ⟨hga, hgb⟩, ?_,
      fun _ => by simp [hne]⟩
    rw [List.map_append]
    exact .cons hfa hpb

/-- a non-empty list of good lines ends with a non-empty line -/
theorem good_last {ps : List LP} (hg : Good ps) (hne : ps ≠ []) :
    ∃ init p, ps = init ++ [p] ∧ p.1 ≠ [] := by
  rcases List.eq_nil_or_concat ps with e | ⟨init, p, e⟩
  · exact absurd e hne
  · rw [List.concat_eq_append] at e
    exact ⟨init, p, e, (hg p (by simp [e])).2.2⟩

theorem renderParas_spec : ∀ (d : Doc) (_ : d ≠ []) (_ : ∀ p ∈ d, wfPara p = true) (cs : Choices),
    ∃ ps : List LP, (renderParas d cs).1 = text ps ∧ Clean ps ∧ BodyC d (ps.map Prod.fst) ∧
      ∃ init p, ps = init ++ [p] ∧ p.1 ≠ []
  | [], h, _, _ => absurd rfl h
  | [p], _, hwf, cs => by
    obtain ⟨hne, hf, _⟩ := wfPara_iff (hwf p (by simp))
    obtain ⟨ps, h1, hg, hp, hps⟩ := renderPara_spec p hf cs
    exact ⟨ps, h1, hg.clean, .one hp, good_last hg (hps hne)⟩
  | p :: q :: rest, _, hwf, cs => by
    obtain ⟨hne, hf, _⟩ := wfPara_iff (hwf p (by simp))
    rw [renderParas_cons]
    simp only
    obtain ⟨a, ha, hga, hpa, _⟩ := renderPara_spec p hf cs
    obtain ⟨bl, hbl, hbl', hcl⟩ := blankLines_spec ((pick 3 (renderPara p cs).2).1 + 1)
      (pick 3 (renderPara p cs).2).2
    obtain ⟨b, hb, hcb, hbb, init, l, hl, hl'⟩ := renderParas_spec (q :: rest) (by simp)
      (fun r hr => hwf r (List.mem_cons_of_mem _ hr))
      (blankLines ((pick 3 (renderPara p cs).2).1 + 1) (pick 3 (renderPara p cs).2).2).2
    refine ⟨a ++ bl ++ b, by rw [ha, hbl, hb, text_append, text_append],
      List.forall_mem_append.mpr ⟨List.forall_mem_append.mpr ⟨hga.clean, hcl⟩, hcb⟩, ?_,
      (a ++ bl) ++ init, l, by rw [hl]; simp, hl'⟩
    rw [List.map_append, List.map_append, hbl']
    exact .cons _ hpa hbb

/-! ### the physical lines of a rendered document -/

theorem replicate_nil_of_map {ps : List LP} {n : Nat} (h : ps.map Prod.fst = List.replicate n []) :
    ∀ p ∈ ps, p.1 = [] := by
  intro p hp
  have : p.1 ∈ ps.map Prod.fst := List.mem_map_of_mem hp
  rw [h] at this
  exact (List.mem_replicate.mp this).2

theorem physLines_text_lines {ps : List LP} (h : Clean ps) :
    physLines (text ps) = lines (ps.map Prod.fst) (eolsOf ps) ∧ AllEol (eolsOf ps) := by
  refine ⟨?_, allEol_eolsOf (fun p hp => (h p hp).1)⟩
  have := physLines_text h []
  rw [List.append_nil] at this
  rw [this, map_cat_eq_lines]
  simp [physLines, linesAux]

/-- The three parts of the text put together, with or without the final terminator. -/
theorem render_core (d : Doc) {leadB bodyB tailB : Bytes} {lead body tail : List LP} {n0 n1 : Nat}
    (hl : leadB = text lead) (hl' : lead.map Prod.fst = List.replicate n0 []) (hlc : Clean lead)
    (hb : bodyB = text body) (hbc : Clean body)
    (hbody : (d = [] ∧ body = []) ∨
      (BodyC d (body.map Prod.fst) ∧ ∃ init p, body = init ++ [p] ∧ p.1 ≠ []))
    (ht : tailB = text tail) (ht' : tail.map Prod.fst = List.replicate n1 []) (htc : Clean tail)
    (drop : Prop) [Decidable drop] (hdrop : drop → n1 = 0) :
    ∃ (n0 n1 : Nat) (cl : List Bytes) (E : Nat → Bytes), AllEol E ∧
      physLines (if drop then dropFinalEol (leadB ++ bodyB ++ tailB) else leadB ++ bodyB ++ tailB)
        = lines (List.replicate n0 [] ++ cl ++ List.replicate n1 []) E ∧
      ((d = [] ∧ cl = []) ∨ BodyC d cl) := by
  have hcl : (d = [] ∧ body.map Prod.fst = []) ∨ BodyC d (body.map Prod.fst) := by
    rcases hbody with ⟨h1, h2⟩ | ⟨h1, _⟩
    · exact Or.inl ⟨h1, by simp [h2]⟩
    · exact Or.inr h1
  by_cases hd : drop
  · rw [if_pos hd]
    have h0 := hdrop hd
    subst h0
    have : tail = [] := by simpa using ht'
    subst this
    subst ht
    rw [text_nil, List.append_nil, hl, hb, ← text_append]
    rcases hbody with ⟨h1, h2⟩ | ⟨h1, init, p, h2, hp⟩
    · subst h2
      rw [List.append_nil]
      rcases List.eq_nil_or_concat lead with e | ⟨init, p, e⟩
      · subst e
        exact ⟨0, 0, [], fun _ => [10], fun _ => Or.inl rfl, rfl, Or.inl ⟨h1, rfl⟩⟩
      · rw [List.concat_eq_append] at e
        subst e
        have hp : p.1 = [] := replicate_nil_of_map hl' p (by simp)
        have hi : Clean init := fun q hq => hlc q (by simp [hq])
        rw [dropFinalEol_blank hlc hp]
        obtain ⟨e1, e2⟩ := physLines_text_lines hi
        refine ⟨init.length, 0, [], _, e2, ?_, Or.inl ⟨h1, rfl⟩⟩
        rw [e1]
        congr 1
        rw [List.append_nil, List.replicate_zero, List.append_nil, List.eq_replicate_iff]
        refine ⟨by simp, fun b hb => ?_⟩
        obtain ⟨q, hq, rfl⟩ := List.mem_map.mp hb
        exact replicate_nil_of_map hl' q (by simp [hq])
    · subst h2
      have hfull : Clean ((lead ++ init) ++ [p]) := by
        rw [List.append_assoc]; exact List.forall_mem_append.mpr ⟨hlc, hbc⟩
      rw [← List.append_assoc, physLines_dropFinalEol hfull hp, map_cat_eq_lines]
      refine ⟨n0, 0, (init ++ [p]).map Prod.fst, eolsOf ((lead ++ init) ++ [(p.1, [10])]),
        allEol_eolsOf ?_, ?_, Or.inr h1⟩
      · intro q hq
        rcases List.mem_append.mp hq with hq | hq
        · exact (hfull q (List.mem_append_left _ hq)).1
        · simp only [List.mem_singleton] at hq; subst hq; exact Or.inl rfl
      · congr 1
        simp [hl']
  · rw [if_neg hd, hl, hb, ht, ← text_append, ← text_append]
    have hfull : Clean (lead ++ body ++ tail) :=
      List.forall_mem_append.mpr ⟨List.forall_mem_append.mpr ⟨hlc, hbc⟩, htc⟩
    obtain ⟨e1, e2⟩ := physLines_text_lines hfull
    refine ⟨n0, n1, body.map Prod.fst, _, e2, ?_, ?_⟩
    · rw [e1]; congr 1; simp [hl', ht']
    · rcases hcl with ⟨h1, h2⟩ | h1
      · exact Or.inl ⟨h1, h2⟩
      · exact Or.inr h1

theorem physLines_render (d : Doc) (cs : Choices) (h : wfDoc d = true) :
    ∃ (n0 n1 : Nat) (cl : List Bytes) (E : Nat → Bytes), AllEol E ∧
      physLines (render d cs) = lines (List.replicate n0 [] ++ cl ++ List.replicate n1 []) E ∧
      ((d = [] ∧ cl = []) ∨ BodyC d cl) := by
  have hwf : ∀ p ∈ d, wfPara p = true := by simpa [wfDoc] using h
  rw [render_eq]
  simp only
  obtain ⟨lead, hl, hl', hlc⟩ := blankLines_spec (pick 3 cs).1 (pick 3 cs).2
  have hbody : ∃ body : List LP, (renderParas d (blankLines (pick 3 cs).1 (pick 3 cs).2).2).1
      = text body ∧ Clean body ∧ ((d = [] ∧ body = []) ∨
        (BodyC d (body.map Prod.fst) ∧ ∃ init p, body = init ++ [p] ∧ p.1 ≠ [])) := by
    by_cases hd : d = []
    · subst hd; exact ⟨[], rfl, List.forall_mem_nil _, Or.inl ⟨rfl, rfl⟩⟩
    · obtain ⟨ps, h1, h2, h3, h4⟩ := renderParas_spec d hd hwf
        (blankLines (pick 3 cs).1 (pick 3 cs).2).2
      exact ⟨ps, h1, h2, Or.inr ⟨h3, h4⟩⟩
  obtain ⟨body, hb, hbc, hbody⟩ := hbody
  obtain ⟨tail, ht, ht', htc⟩ := blankLines_spec
    (pick 3 (renderParas d (blankLines (pick 3 cs).1 (pick 3 cs).2).2).2).1
    (pick 3 (renderParas d (blankLines (pick 3 cs).1 (pick 3 cs).2).2).2).2
  exact render_core d hl hl' hlc hb hbc hbody ht ht' htc _ (fun h => h.2)

end GoDebian.Lemmas.Deb822ReadLayout

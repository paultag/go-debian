/-
  C10 lemmas, part 3: the bridge from an extracted struct field to its descriptor, and the
  decoding theorem for one field value of any shape.  The two meet in `Fits`, which says what
  decoding a shape needs of kind, delimiter and strip set: a struct field that passes the
  table's check converts to a descriptor that fits (`fits_of_fieldOK`), and a descriptor
  that fits decodes (`decode_fits`).  Core Lean only.
-/
import GoDebian.Spec.DocsValue
import GoDebian.Lemmas.DocsDecode
import GoDebian.Lemmas.DepGrammarTop
import GoDebian.Lemmas.Res
import GoDebian.Lemmas.VersionParse

namespace GoDebian.Lemmas.Docs
open GoDebian GoDebian.Str GoDebian.Codec GoDebian.Spec.Codec GoDebian.Spec.DocsValue
open GoDebian.Spec.Docs GoDebian.Extracted.Schemas
open GoDebian.Spec.Deb822 (expectedValue)

/-! ### the bridge -/

theorem toDesc_some {f' : Field} {f : FieldDesc} (h : toDesc f' = some f) :
    ∃ k, toKind f'.kind = some k ∧
      f = .mk f'.name (Bytes.ofString f'.key) k (Bytes.ofString f'.delim)
        (Bytes.ofString f'.strip) f'.required false f'.anonymous := by
  unfold toDesc at h
  cases hk : toKind f'.kind with
  | none => rw [hk] at h; cases h
  | some k =>
    rw [hk] at h
    simp only [Option.map_some, Option.some.injEq] at h
    exact ⟨k, rfl, h.symm⟩

/-- `toKind` reads the characters.  A kind literal rewritten with this never meets
    `String.toList`, which is slow to evaluate on a literal. -/
theorem toKind_ofList (l : List Char) : toKind (String.ofList l) = toKindL l := by
  rw [toKind, String.toList_ofList]

/-- the kind string of a slice of a self-decoding type, whatever the type's name -/
theorem toKind_slice_cust (t : String) : toKind ("slice:cust:" ++ t) = some (.slice (.custom t)) := by
  rw [toKind, String.toList_append,
    show "slice:cust:".toList = ['s', 'l', 'i', 'c', 'e', ':', 'c', 'u', 's', 't', ':'] from
      String.toList_ofList]
  -- by evaluation: the equation lemmas of `toKindL` take seconds to generate
  show some (Kind.slice (.custom (String.ofList t.toList))) = _
  rw [String.ofList_toList]

theorem ofString_empty : Bytes.ofString "" = [] := by decide +kernel
theorem ofString_blank : Bytes.ofString " " = [32] := by decide +kernel
theorem ofString_comma : Bytes.ofString "," = [44] := by decide +kernel
theorem ofString_nl : Bytes.ofString "\n" = [10] := by decide +kernel

theorem delimOf_blank {d : String} (h : d = "" ∨ d = " ") : delimOf (Bytes.ofString d) = [32] := by
  rcases h with rfl | rfl
  · rw [ofString_empty]; rfl
  · rw [ofString_blank]; rfl

theorem converts_of_docFits {spec : List Req} {schema : Option (List Field)}
    (h : docFits spec schema = true) : converts schema = true := by
  cases schema with
  | none => rfl
  | some fs =>
    simp only [docFits, Bool.and_eq_true] at h
    exact h.1.1.1

open GoDebian.Lemmas.Res in
instance instDecidableWfValue : (v : DocValue) → Decidable (wfValue v)
  | .scalar _ _ => inferInstanceAs (Decidable True)
  | .int i => inferInstanceAs (Decidable (-(2^63 : Int) ≤ i ∧ i < 2^63))
  | .bool _ => inferInstanceAs (Decidable True)
  | .version t v => inferInstanceAs (Decidable (Version.parse t = .ok v))
  | .arch t a => inferInstanceAs (Decidable (Dep.parseArch t = .ok a))
  | .archList items =>
    inferInstanceAs (Decidable (∀ x ∈ items, wfWord x.1 = true ∧ Dep.parseArch x.1 = .ok x.2))
  | .dep d => inferInstanceAs (Decidable (Spec.Dependency.wfDep d = true))
  | .commaList items => inferInstanceAs (Decidable (∀ x ∈ items, wfItem x = true))
  | .spaceList items => inferInstanceAs (Decidable (∀ x ∈ items, wfWord x = true))
  | .hashList alg es =>
    inferInstanceAs (Decidable ((alg = "md5" ∨ alg = "sha1" ∨ alg = "sha256" ∨ alg = "sha512") ∧
      ∀ e ∈ es, wfWord e.hash = true ∧ wfWord e.name = true ∧
        (-(2^63 : Int) ≤ e.size ∧ e.size < 2^63)))
  | .changesFiles es =>
    inferInstanceAs (Decidable (∀ e ∈ es, wfWord e.hash = true ∧ wfWord e.name = true ∧
      wfWord e.component = true ∧ wfWord e.priority = true ∧
        (-(2^63 : Int) ≤ e.size ∧ e.size < 2^63)))

/-- `wfModel`, decidably -/
def wfModelB (spec : List Req) (m : DocModel) : Bool :=
  spec.all (fun r =>
    match m r.deb with
    | some (v, _) => decide (shapeOf v = r.shape) && decide (wfValue v)
    | none => true)

theorem wfModel_of_B {spec : List Req} {m : DocModel} (h : wfModelB spec m = true) :
    wfModel spec m := by
  intro r hr v l hm
  have := List.all_eq_true.mp h r hr
  rw [hm] at this
  simpa using this

/-- the strings of a decoded list of strings (to tell two results apart by `decide`) -/
def strsOf : Res Val → Option (List Bytes)
  | .ok (.list vs) => some (vs.filterMap (fun v => match v with | .str b => some b | _ => none))
  | _ => none

theorem paragraph_ext {p q : Deb822.Paragraph} (ho : p.order = q.order) (hv : p.values = q.values) :
    p = q := by
  cases p
  cases q
  cases ho
  cases hv
  rfl

/-! ### one field value -/

/-- what decoding a value of the shape needs of the descriptor -/
def Fits : Shape → Kind → Bytes → Bytes → Prop
  | .scalar, k, _, _ => k = .str
  | .int, k, _, _ => k = .int
  | .bool, k, _, _ => k = .bool
  | .version, k, _, _ => k = .custom "Version"
  | .arch, k, _, _ => k = .custom "Arch"
  | .dep, k, _, _ => k = .custom "Dependency"
  | .archList, k, d, s => k = .slice (.custom "Arch") ∧ delimOf d = [32] ∧ s.all isWs = true
  | .spaceList, k, d, s => k = .slice .str ∧ delimOf d = [32] ∧ s.all isWs = true
  | .commaList, k, d, s => k = .slice .str ∧ d = [44] ∧ s.all isWs = true ∧
      s.contains 10 = true ∧ s.contains 32 = true
  | .hashList alg, k, d, s => k = .slice (.custom (hashType alg)) ∧ d = [10] ∧
      s.all isWs = true ∧ s.contains 10 = true
  | .changesFiles, k, d, s => k = .slice (.custom "FileListChangesFileHash") ∧ d = [10] ∧
      s.all isWs = true ∧ s.contains 10 = true

/-- A descriptor that fits the shape of a well-formed value decodes the value's text, in
    every layout, to the value's view. -/
theorem decode_fits (v : DocValue) (l : Layout) {k : Kind} {d s : Bytes}
    (hf : Fits (shapeOf v) k d s) (hwf : wfValue v) :
    decodeValue 16 k d s .zero (valueText v l) = .ok (view v) := by
  cases v with
  | scalar first conts =>
    cases hf
    exact decode_str _ _ _
  | int i =>
    cases hf
    exact decode_int hwf _ _
  | bool b =>
    cases hf
    exact decode_bool b _ _
  | version t ver =>
    cases hf
    exact decode_custom _ _ _ _ _ _ (decodeCustom_version hwf)
  | arch t a =>
    cases hf
    exact decode_custom _ _ _ _ _ _ (decodeCustom_arch hwf)
  | dep dd =>
    cases hf
    exact decode_custom _ _ _ _ _ _ (decodeCustom_dep (Lemmas.DepGrammarTop.parse_render dd l hwf))
  | archList items =>
    obtain ⟨rfl, hd, hs⟩ := hf
    exact decode_words (fun x : Bytes × Dep.Arch => x.1) (fun x => .custom (.arch x.2)) _ _ _ hd hs
      items (fun x hx => (hwf x hx).1)
      (fun x hx => decode_custom _ _ _ _ _ _ (decodeCustom_arch (hwf x hx).2)) l []
  | spaceList items =>
    obtain ⟨rfl, hd, hs⟩ := hf
    have := decode_words (fun x : Bytes => x) Val.str .str d s hd hs items hwf
      (fun x _ => decode_str d s x) l []
    rwa [List.map_id'] at this
  | commaList items =>
    obtain ⟨rfl, rfl, hs, h10, h32⟩ := hf
    exact decode_commas _ hs h10 h32 items hwf l []
  | hashList alg es =>
    obtain ⟨rfl, rfl, hs, h10⟩ := hf
    exact decode_lines hashLine (hashView alg) _ _ h10 es (fun e he => hashLine_ok hs (hwf.2 e he))
      (fun e he => decode_hashLine hwf.1 (hwf.2 e he) _ _) (odd l) []
  | changesFiles es =>
    obtain ⟨rfl, rfl, hs, h10⟩ := hf
    exact decode_lines changesLine changesView _ _ h10 es (fun e he => changesLine_ok hs (hwf e he))
      (fun e he => decode_changesLine (hwf e he) _ _) (odd l) []

/-- The bridge: a struct field that passes the table's check for a row converts to a
    descriptor that fits the row's shape.  The strings of the schema are evaluated here and
    nowhere else: `fieldOK` gives kind and delimiter as literals. -/
theorem fits_of_fieldOK {r : Req} {g : Field} {f : FieldDesc} (hok : fieldOK r g = true)
    (hd : toDesc g = some f) (hstrip : stripFits r.shape f.strip = true) :
    Fits r.shape f.kind f.delim f.strip := by
  obtain ⟨k, hk, rfl⟩ := toDesc_some hd
  obtain ⟨deb, go, shape⟩ := r
  simp only [FieldDesc.kind, FieldDesc.delim, FieldDesc.strip] at hstrip ⊢
  cases shape <;>
    simp only [fieldOK, stripFits, Bool.and_eq_true, Bool.or_eq_true, beq_iff_eq, and_true] at hok hstrip
  case scalar | int | bool | version | arch | dep =>
    rw [hok.2, toKind_ofList] at hk
    cases hk
    rfl
  case archList | spaceList =>
    rw [hok.2.1, toKind_ofList] at hk
    cases hk
    exact ⟨rfl, delimOf_blank hok.2.2, hstrip⟩
  case commaList =>
    rw [hok.2.1.1, toKind_ofList] at hk
    cases hk
    exact ⟨rfl, by rw [hok.2.1.2, ofString_comma], hstrip.1, hstrip.2⟩
  case hashList alg =>
    rw [hok.2.1.1, toKind_slice_cust] at hk
    cases hk
    exact ⟨rfl, by rw [hok.2.1.2, ofString_nl], hstrip.1, hstrip.2.1⟩
  case changesFiles =>
    rw [hok.2.1.1, toKind_ofList] at hk
    cases hk
    exact ⟨rfl, by rw [hok.2.1.2, ofString_nl], hstrip.1, hstrip.2.1⟩

end GoDebian.Lemmas.Docs

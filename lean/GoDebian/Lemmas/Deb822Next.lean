/-
  The reader on arbitrary input.  `physLines` of a text made of complete lines; the loop body of
  `Next` as one equation over classified lines (`classify`, `nextAux_cons`) with one induction
  principle for its invariants (`nextAux_induct`); `All` as the iteration of `Next` without
  fuel (`Reads`, `all_ok_iff`).  Core Lean only.
-/
import GoDebian.Lemmas.Deb822Para
import GoDebian.Lemmas.Deb822ReadStr

namespace GoDebian.Lemmas.Deb822Next
open GoDebian GoDebian.Deb822 GoDebian.Str
open GoDebian.Lemmas.Deb822ReadStr GoDebian.Lemmas.Deb822Para

/-! ### physical lines -/

/-- a physical line: it ends in its only newline -/
def NL (l : Bytes) : Prop := ∃ x, l = x ++ [10] ∧ 10 ∉ x

theorem linesAux_append {x : Bytes} (h : 10 ∉ x) (rest cur : Bytes) :
    linesAux (x ++ rest) cur = linesAux rest (x.reverse ++ cur) := by
  induction x generalizing cur with
  | nil => rfl
  | cons c x ih =>
    have hc : c ≠ 10 := fun e => h (e ▸ List.mem_cons_self)
    rw [List.cons_append, linesAux, if_neg hc, ih (fun hm => h (List.mem_cons_of_mem _ hm)),
      List.reverse_cons, List.append_assoc, List.singleton_append]

/-- a text made of complete lines is split into exactly those lines -/
theorem physLines_flatten {L : List Bytes} (h : ∀ l ∈ L, NL l) (B : Bytes) :
    physLines (L.flatten ++ B) = L ++ physLines B := by
  induction L with
  | nil => rfl
  | cons l L ih =>
    obtain ⟨x, rfl, hx⟩ := h l List.mem_cons_self
    have ih := ih (fun l hl => h l (List.mem_cons_of_mem _ hl))
    unfold physLines at ih ⊢
    rw [List.flatten_cons, List.append_assoc, List.append_assoc, linesAux_append hx,
      List.singleton_append, linesAux, if_pos rfl, ih]
    simp

theorem physLines_unterminated {c : Bytes} (h : 10 ∉ c) (hne : c ≠ []) :
    physLines c = [c ++ [10]] := by
  have := linesAux_append h [] []
  rw [List.append_nil, List.append_nil] at this
  simp [physLines, this, linesAux, hne]

/-! ### one line -/

/-- the text a continuation line contributes -/
def contOf (line : Bytes) : Bytes :=
  let l := trimRightSpace (line.drop 1)
  if l = [46] then [] else l

/-- the value after a continuation line -/
def contStep (cur l : Bytes) : Bytes :=
  if cur.isEmpty then l ++ [10]
  else (if hasSuffix cur [10] then cur else cur ++ [10]) ++ l ++ [10]

/-- what `Next` makes of a physical line -/
inductive Line where
  | blank | comment | bad
  | cont (l : Bytes)
  | field (k v : Bytes)

def classify (line : Bytes) : Line :=
  if line = [10] ∨ line = [13, 10] then .blank
  else if hasPrefix line [35] then .comment
  else if hasPrefix line [32] ∨ hasPrefix line [9] then .cont (contOf line)
  else match splitN [58] 2 line with
    | [k, v] => if hasPrefix (trimSpace k) [35] then .bad else .field (trimSpace k) (trimSpace v)
    | _ => .bad

/-- the loop body of `Next` -/
theorem nextAux_cons (line : Bytes) (rest : List Bytes) (p : Paragraph) (lk : Bytes) :
    nextAux (line :: rest) p lk = match classify line with
      | .blank => if p.order = [] then nextAux rest p lk else .para p rest
      | .comment => nextAux rest p lk
      | .bad => .bad
      | .cont l => if p.order = [] then .bad else
          nextAux rest { p with values := insert lk (contStep (p.get lk) l) p.values } lk
      | .field k v => nextAux rest (p.set k v) k := by
  rw [nextAux, classify]
  by_cases h1 : line = [10] ∨ line = [13, 10]
  · rw [if_pos h1, if_pos h1]
    simp only [List.isEmpty_iff]
  · rw [if_neg h1, if_neg h1]
    by_cases h2 : hasPrefix line [35] = true
    · rw [if_pos h2, if_pos h2]
    · rw [if_neg h2, if_neg h2]
      by_cases h3 : hasPrefix line [32] = true ∨ hasPrefix line [9] = true
      · rw [if_pos h3, if_pos h3]
        simp only [contStep, contOf, List.isEmpty_iff]
      · rw [if_neg h3, if_neg h3]
        generalize splitN [58] 2 line = s
        rcases s with _ | ⟨k, _ | ⟨v, _ | _⟩⟩
        · rfl
        · rfl
        · by_cases h4 : hasPrefix (trimSpace k) [35] = true
          · simp only [if_pos h4]
          · simp only [if_neg h4, set_eq]
        · rfl

theorem nextAux_nil (p : Paragraph) (lk : Bytes) :
    nextAux [] p lk = if p.order = [] then .eof else .para p [] := by
  rw [nextAux]
  simp only [List.isEmpty_iff]

theorem classify_blank {e : Bytes} (he : e = [10] ∨ e = [13, 10]) : classify e = .blank :=
  if_pos he

theorem classify_comment (r : Bytes) : classify (35 :: r) = .comment := by
  unfold classify
  rw [if_neg (by simp), if_pos (by simp [hasPrefix_cons_singleton])]

theorem classify_cont_line {m : Nat} (hm : m = 32 ∨ m = 9) (r : Bytes) :
    classify (m :: r) = .cont (contOf (m :: r)) := by
  unfold classify
  rcases hm with rfl | rfl <;>
    rw [if_neg (by simp), if_neg (by simp [hasPrefix_cons_singleton]),
      if_pos (by simp [hasPrefix_cons_singleton])]

/-- a line `k:v` whose first byte is none of `#`, blank, tab -/
theorem classify_field_line {k : Bytes} (h58 : 58 ∉ k)
    (hhead : ∀ a ∈ k.head?, a ≠ 35 ∧ a ≠ 32 ∧ a ≠ 9) (v : Bytes) :
    classify (k ++ 58 :: v) =
      if hasPrefix (trimSpace k) [35] then .bad else .field (trimSpace k) (trimSpace v) := by
  have hp : ∀ b, b ≠ 58 → (∀ a ∈ k.head?, a ≠ b) → hasPrefix (k ++ 58 :: v) [b] = false := by
    intro b hb h
    cases k with
    | nil => simpa [hasPrefix_cons_singleton] using hb
    | cons a k => simpa [hasPrefix_cons_singleton] using Ne.symm (h a rfl)
  have hmem : 58 ∈ k ++ 58 :: v := by simp
  unfold classify
  rw [if_neg (by rintro (h | h) <;> rw [h] at hmem <;> simp at hmem),
    hp 35 (by decide) (fun a ha => (hhead a ha).1), hp 32 (by decide) (fun a ha => (hhead a ha).2.1),
    hp 9 (by decide) (fun a ha => (hhead a ha).2.2), splitN_colon h58]
  simp

/-! ### loop invariants -/

/-- Induction principle for the loop of `Next`: a property of (paragraph, last key) that the
    continuation step and the field step preserve holds of the paragraph returned; the lines
    left are a suffix of those given, a proper one when the loop started from nothing. -/
theorem nextAux_induct {I : Paragraph → Bytes → Prop} {lines : List Bytes}
    (hcont : ∀ line ∈ lines, ∀ l, classify line = .cont l → ∀ p lk, I p lk → p.order ≠ [] →
      I { p with values := insert lk (contStep (p.get lk) l) p.values } lk)
    (hfield : ∀ line ∈ lines, ∀ k v, classify line = .field k v → ∀ p lk, I p lk → I (p.set k v) k)
    {p : Paragraph} {lk : Bytes} {q : Paragraph} {rest : List Bytes} (hI : I p lk)
    (h : nextAux lines p lk = .para q rest) :
    (∃ lk', I q lk') ∧ q.order ≠ [] ∧ ∃ pre, lines = pre ++ rest ∧ (p.order = [] → pre ≠ []) := by
  induction lines generalizing p lk with
  | nil =>
    rw [nextAux_nil] at h
    by_cases he : p.order = []
    · rw [if_pos he] at h
      cases h
    · rw [if_neg he] at h
      cases h
      exact ⟨⟨lk, hI⟩, he, [], rfl, fun e => absurd e he⟩
  | cons line rest' ih =>
    have ih' := @ih (fun l hl => hcont l (List.mem_cons_of_mem _ hl))
      (fun l hl => hfield l (List.mem_cons_of_mem _ hl))
    -- every recursive call leaves `line` in front of what the rest of the loop consumed
    have wrap : ∀ {p' lk'}, I p' lk' → nextAux rest' p' lk' = .para q rest →
        (∃ lk', I q lk') ∧ q.order ≠ [] ∧
          ∃ pre, line :: rest' = pre ++ rest ∧ (p.order = [] → pre ≠ []) :=
      fun hI' h' =>
        have ⟨a, b, pre, e, _⟩ := ih' hI' h'
        ⟨a, b, line :: pre, by rw [e]; rfl, fun _ => List.cons_ne_nil _ _⟩
    rw [nextAux_cons] at h
    cases hc : classify line with
    | blank =>
      simp only [hc] at h
      by_cases he : p.order = []
      · rw [if_pos he] at h
        exact wrap hI h
      · rw [if_neg he] at h
        cases h
        exact ⟨⟨lk, hI⟩, he, [line], rfl, fun _ => List.cons_ne_nil _ _⟩
    | comment =>
      simp only [hc] at h
      exact wrap hI h
    | bad =>
      simp only [hc] at h
      cases h
    | cont l =>
      simp only [hc] at h
      by_cases he : p.order = []
      · rw [if_pos he] at h
        cases h
      · rw [if_neg he] at h
        exact wrap (hcont line List.mem_cons_self l hc p lk hI he) h
    | field k v =>
      simp only [hc] at h
      exact wrap (hfield line List.mem_cons_self k v hc p lk hI) h

/-- Loop invariant of `nextAux lines p lastKey` on arbitrary input. -/
def Inv (p : Paragraph) (lastKey : Bytes) : Prop :=
  KeysOK p ∧ (p.order ≠ [] → lastKey ∈ p.order)

/-- `Next` returns a paragraph with a non-empty duplicate-free order that lists exactly its
    keys, and leaves a proper suffix of the lines it was given. -/
theorem next_para {lines : List Bytes} {q : Paragraph} {rest : List Bytes}
    (h : next lines = .para q rest) :
    KeysOK q ∧ q.order ≠ [] ∧ ∃ pre, lines = pre ++ rest ∧ pre ≠ [] := by
  have ⟨⟨_, hq⟩, hne, pre, e, hpre⟩ := nextAux_induct (I := Inv) (lines := lines)
    (fun _ _ l _ p lk hI hne => by
      -- a continuation line overwrites the value of the last key, which is listed
      have hk := hI.2 hne
      rw [← set_of_isSome ((hI.1.2 lk).mp hk)]
      exact ⟨hI.1.set lk _, fun _ => mem_order_set hI.1 lk _⟩)
    (fun _ _ k v _ p _ hI => ⟨hI.1.set k v, fun _ => mem_order_set hI.1 k v⟩)
    (p := empty) (lk := []) ⟨keysOK_empty, fun h => absurd rfl h⟩ h
  exact ⟨hq.1, hne, pre, e, hpre rfl⟩

theorem next_consumes {lines : List Bytes} {q : Paragraph} {rest : List Bytes}
    (h : next lines = .para q rest) : rest.length < lines.length := by
  obtain ⟨_, _, pre, rfl, hpre⟩ := next_para h
  have : 0 < pre.length := List.length_pos_iff.mpr hpre
  rw [List.length_append]
  omega

/-! ### `All` -/

theorem allAux_succ (fuel : Nat) (lines : List Bytes) (acc : List Paragraph) :
    allAux (fuel + 1) lines acc = match next lines with
      | .eof => .ok acc
      | .bad => .error .err
      | .para p rest => allAux fuel rest (acc ++ [p]) := rfl

/-- `Next`, iterated to the end of the input -/
inductive Reads : List Bytes → List Paragraph → Prop
  | eof {ls : List Bytes} : next ls = .eof → Reads ls []
  | para {ls rest : List Bytes} {p : Paragraph} {ps : List Paragraph} :
      next ls = .para p rest → Reads rest ps → Reads ls (p :: ps)

theorem reads_of_allAux {fuel : Nat} {lines : List Bytes} {acc ps : List Paragraph}
    (h : allAux fuel lines acc = .ok ps) : ∃ tl, ps = acc ++ tl ∧ Reads lines tl := by
  induction fuel generalizing lines acc with
  | zero => cases h
  | succ fuel ih =>
    rw [allAux_succ] at h
    cases hn : next lines with
    | eof =>
      simp only [hn] at h
      cases h
      exact ⟨[], (List.append_nil _).symm, .eof hn⟩
    | bad =>
      simp only [hn] at h
      cases h
    | para p rest =>
      simp only [hn] at h
      obtain ⟨tl, rfl, hr⟩ := ih h
      exact ⟨p :: tl, by simp, .para hn hr⟩

/-- the fuel `All` starts with is enough, because `Next` consumes lines -/
theorem Reads.allAux {lines : List Bytes} {tl : List Paragraph} (h : Reads lines tl) {fuel : Nat}
    (hf : lines.length < fuel) (acc : List Paragraph) :
    allAux fuel lines acc = .ok (acc ++ tl) := by
  induction h generalizing fuel acc with
  | eof hn =>
    cases fuel with
    | zero => omega
    | succ fuel => rw [allAux_succ, hn, List.append_nil]
  | para hn _ ih =>
    cases fuel with
    | zero => omega
    | succ fuel =>
      have := next_consumes hn
      rw [allAux_succ, hn]
      simp only
      rw [ih (by omega), List.append_assoc, List.singleton_append]

theorem all_ok_iff (bs : Bytes) (ps : List Paragraph) :
    all bs = .ok ps ↔ Reads (physLines bs) ps := by
  constructor
  · intro h
    obtain ⟨tl, rfl, hr⟩ := reads_of_allAux h
    exact hr
  · intro h
    exact h.allAux (Nat.lt_succ_self _) []

/-- running out of fuel and panicking are not among the outcomes -/
theorem allAux_error {fuel : Nat} {lines : List Bytes} (hf : lines.length < fuel)
    (acc : List Paragraph) {e : Err} (h : allAux fuel lines acc = .error e) : e = .err := by
  induction fuel generalizing lines acc with
  | zero => omega
  | succ fuel ih =>
    rw [allAux_succ] at h
    cases hn : next lines with
    | eof =>
      simp only [hn] at h
      cases h
    | bad =>
      simp only [hn] at h
      cases h
      rfl
    | para p rest =>
      simp only [hn] at h
      have := next_consumes hn
      exact ih (by omega) _ h

theorem all_error {bs : Bytes} {e : Err} (h : all bs = .error e) : e = .err :=
  allAux_error (Nat.lt_succ_self _) [] h

/-- What holds of whatever `Next` returns on a suffix of the lines holds of every paragraph
    read from them. -/
theorem Reads.forall {P : Paragraph → Prop} {ls : List Bytes} {ps : List Paragraph}
    (h : Reads ls ps) (hP : ∀ {ls' q rest}, ls' <:+ ls → next ls' = .para q rest → P q) :
    ∀ p ∈ ps, P p := by
  induction h with
  | eof => exact List.forall_mem_nil _
  | para hn _ ih =>
    obtain ⟨_, _, pre, rfl, _⟩ := next_para hn
    exact List.forall_mem_cons.mpr
      ⟨hP (List.suffix_refl _) hn, ih (fun hs => hP (hs.trans (List.suffix_append _ _)))⟩

theorem all_invariant (bs : Bytes) (ps : List Paragraph) (h : all bs = .ok ps) :
    ∀ p ∈ ps, p.order ≠ [] ∧ p.order.Nodup ∧ ∀ k, k ∈ p.order ↔ (lookup k p.values).isSome :=
  ((all_ok_iff bs ps).mp h).forall fun _ hn =>
    have ⟨h1, h2, _⟩ := next_para hn
    ⟨h2, h1.1, h1.2⟩

/-- a text that `All` reads as exactly one paragraph: `Next` returns that paragraph -/
theorem next_of_all_single {bs : Bytes} {q : Paragraph} (h : all bs = .ok [q]) :
    ∃ rest, next (physLines bs) = .para q rest := by
  cases (all_ok_iff bs [q]).mp h with
  | para hn _ => exact ⟨_, hn⟩

end GoDebian.Lemmas.Deb822Next

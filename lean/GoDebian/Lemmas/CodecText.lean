/-
  C09 lemmas, part 8: through the text — marshalling a well-formed record succeeds, the
  paragraph of a text record is written and read back byte for byte (C08 machinery), the
  decoder sees the same fields.
-/
import GoDebian.Model.Codec
import GoDebian.Spec.Codec
import GoDebian.Lemmas.CodecRecord
import GoDebian.Lemmas.Deb822WriteDoc

namespace GoDebian.Lemmas.Codec
open GoDebian GoDebian.Deb822 GoDebian.Codec GoDebian.Spec.Codec
open GoDebian.Lemmas.Deb822Write GoDebian.Lemmas.Deb822WriteStr GoDebian.Spec.Deb822Write

/-! ### marshalling succeeds -/

theorem convert_ok_of_wf {s : Schema} {r : List Val} (hs : flatSchema s = true)
    (hr : wfRec s r) : ∃ p, convertToParagraph s r = .ok p := by
  cases h : convertToParagraph s r with
  | ok p => exact ⟨p, rfl⟩
  | error e =>
    obtain ⟨⟨f, v⟩, hfv, _, _, hm⟩ := convert_error h
    obtain ⟨data, hd, _⟩ := field_lawful ((flatSchema_spec hs).1 f (mem_zip_left hfv))
      ((wfRec_spec hr).2 _ hfv)
    rw [hd] at hm
    cases hm

/-! ### the paragraph of a schema without an embedded Paragraph -/

theorem lastFound_none {es : List Emit} (h : ∀ q, Emit.found q ∉ es) (p : Paragraph) :
    lastFound p es = p := by
  induction es generalizing p with
  | nil => rfl
  | cons e es ih =>
    have h' : ∀ q, Emit.found q ∉ es := fun q hq => h q (List.mem_cons_of_mem _ hq)
    cases e with
    | found q => exact absurd List.mem_cons_self (h q)
    | _ => exact ih h' p

theorem convert_spec_flat {s : Schema} {r : List Val} {p : Paragraph}
    (hs : ∀ f ∈ s, f.anonymous = false) (h : convertToParagraph s r = .ok p) :
    ∃ es, All₂ (fun fv e => emit fv = .ok e) (s.zip r) es ∧
      p = Deb822.empty.update ⟨(writes es).map Prod.fst, insertAll (writes es) []⟩ := by
  obtain ⟨es, hes, hp⟩ := convert_spec h
  have hall := mapRes_ok hes
  refine ⟨es, hall, ?_⟩
  have hno : ∀ q, Emit.found q ∉ es := by
    intro q hq
    obtain ⟨⟨f, v⟩, hfv, hem⟩ := all₂_mem_right hall hq
    have := emit_found hem
    rw [hs f (mem_zip_left hfv)] at this
    cases this
  rw [assemble, lastFound_none hno] at hp
  exact hp

/-- every listed name of the paragraph of a flat schema is the key of a written field -/
theorem order_convert_flat {s : Schema} {r : List Val} {p : Paragraph}
    (hs : ∀ f ∈ s, f.anonymous = false) (h : convertToParagraph s r = .ok p) :
    p.order.Nodup ∧ ∀ k ∈ p.order, ∃ fv ∈ s.zip r, ∃ data, fv.1.key = k ∧
      marshalValue 16 fv.1.kind fv.1.delim fv.2 = .ok data ∧
      (data.isEmpty && !fv.1.required) = false := by
  obtain ⟨es, hall, rfl⟩ := convert_spec_flat hs h
  refine ⟨update_nodup (by simp [Deb822.empty]), fun k hk => ?_⟩
  rw [mem_order_update] at hk
  rcases hk with hk | hk
  · simp [Deb822.empty] at hk
  · obtain ⟨⟨k', d⟩, hkd, hk'⟩ := List.mem_map.mp hk
    simp only at hk'
    subst hk'
    obtain ⟨fv, hfv, hem⟩ := all₂_mem_right hall (mem_writes.mp hkd)
    obtain ⟨_, _, hkey, data, hm, hc, _⟩ := emit_write hem
    exact ⟨fv, hfv, data, hkey.symm, hm, hc⟩

/-! ### text lines -/

theorem textLine_spec {d : Bytes} (h : textLine d = true) : Trimmed d ∧ 10 ∉ d := by
  simp only [textLine, Bool.and_eq_true, decide_eq_true_eq, Bool.not_eq_eq_eq_not, Bool.not_true,
    List.contains_eq_mem, decide_eq_false_iff_not] at h
  exact ⟨trimmed_of_fixed h.1, h.2⟩

theorem foldParts_textLine {d : Bytes} (h : textLine d = true) : foldParts d = (d, []) := by
  obtain ⟨ht, hnl⟩ := textLine_spec h
  have hv : valueLines d = [d] := by
    unfold valueLines
    rw [trimSuffix_nl_of_not_mem hnl]
    have := split_joinWith (ls := [d]) (by simp) (by simpa using hnl)
    simpa [Str.joinWith] using this
  unfold foldParts
  rw [hv]
  simp only
  rw [if_neg (by rw [Lemmas.Str.trimLeftSpace_of_zero ht.1]; simp)]

/-! ### values of several lines in list fields -/

theorem decodeValue_slice_congr (n : Nat) (e : Kind) (delim strip : Bytes) (old : Val)
    {a b : Bytes} (h : Str.trimSet strip a = Str.trimSet strip b) :
    decodeValue (n+1) (.slice e) delim strip old a = decodeValue (n+1) (.slice e) delim strip old b := by
  rw [decodeValue.eq_def, decodeValue.eq_def]
  simp only [h]

theorem eq_snoc_of_hasSuffix_nl {x : Bytes} (h : Str.hasSuffix x [10] = true) :
    ∃ y, x = y ++ [10] := by
  unfold Str.hasSuffix at h
  cases hr : x.reverse with
  | nil => rw [hr] at h; simp [Str.isPrefix] at h
  | cons c t =>
    rw [hr] at h
    simp only [List.reverse_cons, List.reverse_nil, List.nil_append, Str.isPrefix, Bool.and_true,
      beq_iff_eq] at h
    refine ⟨t.reverse, ?_⟩
    have := congrArg List.reverse hr
    rw [List.reverse_reverse] at this
    rw [this, ← h]
    simp

theorem trimSet_trimSuffix_nl {strip : Bytes} (h : strip.contains 10 = true) (x : Bytes) :
    Str.trimSet strip (Str.trimSuffix x [10]) = Str.trimSet strip x := by
  by_cases hs : Str.hasSuffix x [10] = true
  · obtain ⟨y, rfl⟩ := eq_snoc_of_hasSuffix_nl hs
    rw [trimSuffix_snoc_nl, Lemmas.Changelog.trimSet_snoc_mem _ h]
  · unfold Str.trimSuffix
    rw [if_neg hs]

/-- what `textField` gives: the written form is read back (`PartsOK`), and what is read back
    decodes like the value itself -/
theorem textField_spec {f : FieldDesc} {d : Bytes} (h : textField f d = true) :
    PartsOK (foldParts d).1 (foldParts d).2 ∧
    decodeValue 16 f.kind f.delim f.strip .zero (build (foldParts d).1 (foldParts d).2) =
      decodeValue 16 f.kind f.delim f.strip .zero d := by
  simp only [textField, Bool.or_eq_true, Bool.and_eq_true] at h
  rcases h with h | ⟨⟨hk, hs⟩, htv⟩
  · rw [foldParts_textLine h]
    obtain ⟨h1, h2⟩ := textLine_spec h
    exact ⟨⟨h1, h2, by simp⟩, rfl⟩
  · refine ⟨partsOK_of_textValue htv, ?_⟩
    cases hkind : f.kind with
    | slice e =>
      apply decodeValue_slice_congr
      have hnl : noLeadingEmptyLine d = true := by
        simp only [textValue, Bool.and_eq_true] at htv
        exact htv.2
      have := trimSuffix_eq_of_valueLines (valueLines_reread hnl)
      rw [← trimSet_trimSuffix_nl hs, this, trimSet_trimSuffix_nl hs]
    | _ => rw [hkind] at hk; simp [isSlice] at hk

/-! ### through the text -/

theorem lookup_map_none {ks : List Bytes} {k : Bytes} (hk : k ∉ ks) (g : Bytes → Bytes) :
    lookup k (ks.map (fun k => (k, g k))) = none := by
  induction ks with
  | nil => rfl
  | cons k' ks ih =>
    simp only [List.map_cons, lookup]
    rw [if_neg (fun e => hk (by rw [e]; exact List.mem_cons_self))]
    exact ih (fun h => hk (List.mem_cons_of_mem _ h))

theorem lookup_reread (p : Paragraph) (k : Bytes) :
    lookup k (reread p).values =
      if k ∈ p.order then some (build (foldParts (p.get k)).1 (foldParts (p.get k)).2) else none := by
  unfold reread
  by_cases hk : k ∈ p.order
  · rw [if_pos hk,
      lookup_map_self hk (fun k => build (foldParts (p.get k)).1 (foldParts (p.get k)).2)]
  · rw [if_neg hk, lookup_map_none hk]

theorem unmarshal_write {p : Paragraph} (h : Rereadable p) (s : Schema) :
    unmarshal s p.write = decodeStruct (reread p) s [] := by
  unfold unmarshal
  rw [physLines_write p h.no_nl, next_paraLines h]

theorem someWritten_spec {s : Schema} {r : List Val} (h : someWritten s r = true) :
    ∃ fv ∈ s.zip r, fv.1.anonymous = false ∧ fv.1.key ≠ [45] ∧ ∃ data,
      marshalValue 16 fv.1.kind fv.1.delim fv.2 = .ok data ∧
      (fv.1.required = true ∨ data ≠ []) := by
  simp only [someWritten, List.any_eq_true, Bool.and_eq_true, Bool.not_eq_eq_eq_not, Bool.not_true,
    bne_iff_ne, ne_eq] at h
  obtain ⟨fv, hfv, ⟨ha, hk⟩, hm⟩ := h
  refine ⟨fv, hfv, ha, hk, ?_⟩
  cases hd : marshalValue 16 fv.1.kind fv.1.delim fv.2 with
  | error e => rw [hd] at hm; cases hm
  | ok data =>
    rw [hd] at hm
    refine ⟨data, rfl, ?_⟩
    simp only [Bool.or_eq_true, Bool.not_eq_eq_eq_not, Bool.not_true, List.isEmpty_eq_false_iff] at hm
    exact hm

theorem textRec_spec {s : Schema} {r : List Val} (h : textRec s r = true) :
    ∀ fv ∈ s.zip r, Spec.Deb822.wfName fv.1.key = true ∧ fv.1.multiline = false ∧
      ∀ data, marshalValue 16 fv.1.kind fv.1.delim fv.2 = .ok data →
        textField fv.1 data = true := by
  simp only [textRec, List.all_eq_true, Bool.and_eq_true, Bool.not_eq_eq_eq_not, Bool.not_true] at h
  intro fv hfv
  obtain ⟨⟨h1, h2⟩, h3⟩ := h fv hfv
  refine ⟨h1, h2, fun data hd => ?_⟩
  rw [hd] at h3
  exact h3

theorem roundtrip_text {s : Schema} {r : List Val} (hs : flatSchema s = true) (hr : wfRec s r)
    (ht : textRec s r = true) (hne : someWritten s r = true) :
    ∃ text r', marshal s r = .ok text ∧ unmarshal s text = .ok r' ∧ SameRec s r r' := by
  obtain ⟨hflat, hcount, _⟩ := flatSchema_spec hs
  have hanon : ∀ f ∈ s, f.anonymous = false := fun f hf => (flatField_spec (hflat f hf)).1
  obtain ⟨p, hp⟩ := convert_ok_of_wf hs hr
  obtain ⟨hpnd, hpord⟩ := order_convert_flat hanon hp
  have htr := textRec_spec ht
  -- a written field holds its rendering, which is text
  have hwritten : ∀ fv ∈ s.zip r, ∀ data, marshalValue 16 fv.1.kind fv.1.delim fv.2 = .ok data →
      (data.isEmpty && !fv.1.required) = false →
      lookup fv.1.key p.values = some data ∧ textField fv.1 data = true := by
    rintro ⟨f, v⟩ hfv data hm hc
    obtain ⟨_, hml, htl⟩ := htr _ hfv
    obtain ⟨ha, hk45, _⟩ := flatField_spec (hflat f (mem_zip_left hfv))
    have hl := lookup_convert hp hfv ha hk45 hm (hcount _)
    simp only at hc hml
    rw [stored, if_neg (by simp [hc]), hml] at hl
    exact ⟨hl, htl data hm⟩
  -- the paragraph is not empty
  have hpne : p.order ≠ [] := by
    obtain ⟨⟨f, v⟩, hfv, ha, hk45, data, hm, hw⟩ := someWritten_spec hne
    have := (mem_order_convert hp hfv ha hk45 hm (hcount _)).mpr hw
    intro h0
    rw [h0] at this
    cases this
  have hrr : Rereadable p := by
    refine ⟨hpne, hpnd, fun k hk => ?_⟩
    obtain ⟨fv, hfv, data, hkey, hm, hc⟩ := hpord k hk
    obtain ⟨hl, htf⟩ := hwritten fv hfv data hm hc
    have hget : p.get k = data := by
      unfold Paragraph.get
      rw [← hkey, hl]
      rfl
    rw [hget]
    exact ⟨keyOK_of_wfName (hkey ▸ (htr fv hfv).1), (textField_spec htf).1⟩
  refine ⟨p.write, ?_⟩
  -- the paragraph reread holds, under each key, what decodes like the stored rendering
  obtain ⟨r', hr', hsame⟩ := roundtrip_of_lookup hs hr (q := reread p) (by
    rintro ⟨f, v⟩ hfv data hm
    obtain ⟨ha, hk45, _⟩ := flatField_spec (hflat f (mem_zip_left hfv))
    rw [lookup_reread]
    by_cases hc : (data.isEmpty && !f.required) = true
    · have hl := lookup_convert hp hfv ha hk45 hm (hcount _)
      rw [stored, if_pos hc] at hl
      rw [if_neg (by rw [convert_inv hp, hl]; simp), stored, if_pos hc]
    · obtain ⟨hl, htf⟩ := hwritten (f, v) hfv data hm (by simpa using hc)
      have hget : p.get f.key = data := by
        unfold Paragraph.get
        rw [hl]
        rfl
      rw [if_pos (by rw [convert_inv hp, hl]; rfl), hget, stored, if_neg hc, (htr _ hfv).2.1]
      exact (textField_spec htf).2)
  refine ⟨r', ?_, ?_, hsame⟩
  · unfold marshal; rw [hp]; rfl
  · rw [unmarshal_write hrr]; exact hr'

end GoDebian.Lemmas.Codec

/-
  `Bytes.ofString` character by character.  The definition goes through a `ByteArray`, which the
  kernel builds by repeated `push` and reads back with `get!` at every index, each a walk over
  the underlying list: evaluating `Bytes.ofString "literal"` is quadratic in the literal.
  `ofString_ofList` gives the same bytes as a `flatMap` over the characters.  A string literal
  unifies with `String.ofList _` under `rw` (not under `simp`, whose index keeps literals
  apart), so `rw [Bytes.ofString_ofList]` in front of `decide +kernel` makes the evaluation of a
  test vector with a long literal linear.
-/
import GoDebian.Base.Bytes

namespace GoDebian.Bytes

theorem toList_loop (bs : ByteArray) (i : Nat) (r : List UInt8) :
    ByteArray.toList.loop bs i r = r.reverse ++ bs.data.toList.drop i := by
  induction h : bs.size - i generalizing i r with
  | zero =>
    have hi : bs.data.toList.length ≤ i := by show bs.size ≤ i; omega
    rw [ByteArray.toList.loop, if_neg (by omega), List.drop_eq_nil_of_le hi, List.append_nil]
  | succ n ih =>
    have hi : i < bs.data.toList.length := by show i < bs.size; omega
    have hget : bs.get! i = bs.data.toList[i] := by
      cases bs with | mk d => exact getElem!_pos d i hi
    rw [ByteArray.toList.loop, if_pos (show i < bs.size from hi), ih _ _ (by omega),
      List.drop_eq_getElem_cons hi, List.reverse_cons, List.append_assoc, hget]
    rfl

theorem toList_eq (bs : ByteArray) : bs.toList = bs.data.toList := by
  rw [ByteArray.toList, toList_loop]
  rfl

theorem ofString_ofList (cs : List Char) :
    ofString (String.ofList cs) = cs.flatMap fun c => (String.utf8EncodeChar c).map (·.toNat) := by
  rw [ofString, toList_eq, String.toUTF8_eq_toByteArray, String.toByteArray_ofList, List.utf8Encode,
    List.toList_data_toByteArray, List.map_flatMap]

theorem ofString_append (s t : String) : ofString (s ++ t) = ofString s ++ ofString t := by
  rw [ofString, ofString, ofString, toList_eq, toList_eq, toList_eq, String.toUTF8_eq_toByteArray,
    String.toUTF8_eq_toByteArray, String.toUTF8_eq_toByteArray, String.toByteArray_append,
    ByteArray.toList_data_append, List.map_append]

end GoDebian.Bytes

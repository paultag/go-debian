/-
  Physical lines of a text given as a list of (content, line terminator) pairs:
  `physLines` recovers the lines; dropping the final terminator only turns the last
  terminator into "\n".  `lines cl E` = the contents `cl` with terminators `E 0, E 1, …`.
  Core Lean only.
-/
import GoDebian.Spec.Deb822
import GoDebian.Lemmas.Deb822Next

namespace GoDebian.Lemmas.Deb822ReadLines
open GoDebian GoDebian.Deb822 GoDebian.Spec.Deb822 GoDebian.Lemmas.Deb822Next

/-- a line terminator -/
def Eol (e : Bytes) : Prop := e = [10] ∨ e = [13, 10]

/-- content and terminator of a line -/
abbrev LP := Bytes × Bytes

def cat (p : LP) : Bytes := p.1 ++ p.2

/-- the text of a list of lines -/
def text (ps : List LP) : Bytes := (ps.map cat).flatten

/-- free of CR and LF -/
abbrev Plain (x : Bytes) : Prop := 10 ∉ x ∧ 13 ∉ x

theorem Plain.append {a b : Bytes} (ha : Plain a) (hb : Plain b) : Plain (a ++ b) :=
  ⟨fun h => (List.mem_append.mp h).elim ha.1 hb.1, fun h => (List.mem_append.mp h).elim ha.2 hb.2⟩

/-- plain contents, proper terminators -/
def Clean (ps : List LP) : Prop := ∀ p ∈ ps, Eol p.2 ∧ Plain p.1

theorem text_nil : text [] = [] := rfl
theorem text_cons (p : LP) (ps : List LP) : text (p :: ps) = p.1 ++ p.2 ++ text ps := by
  simp [text, cat]
theorem text_append (a b : List LP) : text (a ++ b) = text a ++ text b := by
  simp [text]

/-! ### `physLines` -/

theorem physLines_text {ps : List LP} (h : Clean ps) (rest : Bytes) :
    physLines (text ps ++ rest) = ps.map cat ++ physLines rest := by
  refine physLines_flatten (fun l hl => ?_) rest
  obtain ⟨p, hp, rfl⟩ := List.mem_map.mp hl
  obtain ⟨he, h10, _⟩ := h p hp
  -- the CR of a CRLF terminator counts as content of the physical line
  rcases he with he | he
  · exact ⟨p.1, by rw [cat, he], h10⟩
  · exact ⟨p.1 ++ [13], by simp [cat, he], by simp [h10]⟩

/-! ### `dropFinalEol` -/

theorem dropFinalEol_append_eol {X e : Bytes} (hX : X.getLast? ≠ some 13) (he : Eol e) :
    dropFinalEol (X ++ e) = X := by
  unfold dropFinalEol
  rcases he with he | he
  · subst he
    cases hr : X.reverse with
    | nil =>
      have : X = [] := by simpa using hr
      subst this; rfl
    | cons a r =>
      have hX' : X = r.reverse ++ [a] := by
        have := congrArg List.reverse hr
        simpa using this
      have ha : a ≠ 13 := by
        intro e; apply hX; subst e; rw [hX']; simp
      simp only [List.reverse_append, List.reverse_cons, List.reverse_nil, List.nil_append,
        List.singleton_append, hr]
      split
      · rename_i heq; injection heq with _ h2; injection h2 with h3 _; exact absurd h3 ha
      · rename_i heq; injection heq with _ h2; subst h2; simp [hX']
      · rename_i h1 h2; exact absurd rfl (h2 _)
  · subst he
    simp

theorem getLast?_text_ne {ps : List LP} (h : Clean ps) : (text ps).getLast? ≠ some 13 := by
  rcases List.eq_nil_or_concat ps with e | ⟨init, p, e⟩
  · subst e; simp [text]
  · rw [List.concat_eq_append] at e
    subst e
    have hp := (h p (by simp)).1
    rw [text_append]
    rcases hp with hp | hp <;> simp [text, cat, hp]

/-- the text without its final terminator, when the last line is not empty -/
theorem physLines_dropFinalEol {init : List LP} {p : LP} (h : Clean (init ++ [p]))
    (hne : p.1 ≠ []) :
    physLines (dropFinalEol (text (init ++ [p]))) = (init ++ [(p.1, [10])]).map cat := by
  have hp := h p (by simp)
  have hi : Clean init := fun q hq => h q (by simp [hq])
  have e1 : text (init ++ [p]) = (text init ++ p.1) ++ p.2 := by
    simp [text, cat]
  have hl : (text init ++ p.1).getLast? ≠ some 13 := by
    rw [List.getLast?_append]
    cases hg : p.1.getLast? with
    | none => exact absurd (List.getLast?_eq_none_iff.mp hg) hne
    | some x =>
      intro hc
      injection hc with hc
      subst hc
      exact hp.2.2 (List.mem_of_getLast? hg)
  rw [e1, dropFinalEol_append_eol hl hp.1, physLines_text hi, physLines_unterminated hp.2.1 hne]
  simp [cat]

/-- … and when the text consists of empty lines only -/
theorem dropFinalEol_blank {init : List LP} {p : LP} (h : Clean (init ++ [p])) (he : p.1 = []) :
    dropFinalEol (text (init ++ [p])) = text init := by
  have hp := h p (by simp)
  have hi : Clean init := fun q hq => h q (by simp [hq])
  have e1 : text (init ++ [p]) = text init ++ p.2 := by
    simp [text, cat, he]
  rw [e1, dropFinalEol_append_eol (getLast?_text_ne hi) hp.1]

/-! ### contents with a stream of terminators -/

def lines : List Bytes → (Nat → Bytes) → List Bytes
  | [], _ => []
  | c :: cl, E => (c ++ E 0) :: lines cl (fun i => E (i + 1))

def AllEol (E : Nat → Bytes) : Prop := ∀ i, Eol (E i)

theorem AllEol.shift {E : Nat → Bytes} (h : AllEol E) (n : Nat) : AllEol (fun i => E (i + n)) :=
  fun i => h (i + n)

theorem lines_append (a b : List Bytes) (E : Nat → Bytes) :
    lines (a ++ b) E = lines a E ++ lines b (fun i => E (i + a.length)) := by
  induction a generalizing E with
  | nil => simp [lines]
  | cons c a ih =>
    simp only [List.cons_append, lines, ih, List.length_cons]
    congr 3

/-- terminators of a list of pairs as a stream -/
def eolsOf : List LP → Nat → Bytes
  | [], _ => [10]
  | p :: _, 0 => p.2
  | _ :: ps, i + 1 => eolsOf ps i

theorem allEol_eolsOf {ps : List LP} (h : ∀ p ∈ ps, Eol p.2) : AllEol (eolsOf ps) := by
  induction ps with
  | nil => intro i; exact Or.inl rfl
  | cons p ps ih =>
    intro i
    cases i with
    | zero => exact h p (by simp)
    | succ i => exact ih (fun q hq => h q (List.mem_cons_of_mem _ hq)) i

theorem map_cat_eq_lines (ps : List LP) : ps.map cat = lines (ps.map Prod.fst) (eolsOf ps) := by
  induction ps with
  | nil => rfl
  | cons p ps ih =>
    simp only [List.map_cons, lines, ih]
    rfl

end GoDebian.Lemmas.Deb822ReadLines

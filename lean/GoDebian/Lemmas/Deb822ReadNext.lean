/-
  The reader on lines that follow the grammar of `Deb822ReadLayout`: how `classify` sees a
  continuation line and a field line of the grammar; what `nextAux` does on the lines of a
  field, of a paragraph; what `Reads` makes of the lines of a document.  The hypotheses are
  those the proofs use (`FieldOK`, `ParaOK`); a well-formed document is one instance.
  Core Lean only.
-/
import GoDebian.Lemmas.Deb822Next
import GoDebian.Lemmas.Deb822ReadStr
import GoDebian.Lemmas.Deb822ReadLayout

namespace GoDebian.Lemmas.Deb822ReadNext
open GoDebian GoDebian.Deb822 GoDebian.Spec.Deb822 GoDebian.Str
open GoDebian.Lemmas.Str GoDebian.Lemmas.Deb822ReadStr GoDebian.Lemmas.Deb822Para
open GoDebian.Lemmas.Deb822Next GoDebian.Lemmas.Deb822ReadLines GoDebian.Lemmas.Deb822ReadLayout

/-! ### what is read back as itself -/

def NameOK (k : Bytes) : Prop := trimSpace k = k ∧ 58 ∉ k ∧ 10 ∉ k ∧ k.head? ≠ some 35
def ContOK (l : Bytes) : Prop := trimRightSpace l = l ∧ 10 ∉ l ∧ l ≠ [46]
/-- a field that every layout of the grammar reads back as `expectedValue`; the fields of the
    paragraphs the reader returns on arbitrary input have this form too (`C08_reader_output`) -/
def FieldOK (f : Field) : Prop :=
  NameOK f.name ∧ (trimSpace f.first = f.first ∧ 10 ∉ f.first) ∧ ∀ l ∈ f.conts, ContOK l
def ParaOK (fs : Para) : Prop := fs ≠ [] ∧ (fs.map (·.name)).Nodup ∧ ∀ f ∈ fs, FieldOK f

theorem nodup_of_nodupNames {ks : List Bytes} (h : nodupNames ks = true) : ks.Nodup := by
  induction ks with
  | nil => exact List.nodup_nil
  | cons k ks ih =>
    have : k ∉ ks ∧ nodupNames ks = true := by simpa [nodupNames] using h
    exact List.nodup_cons.mpr ⟨this.1, ih this.2⟩

theorem fieldOK_of_wfField {f : Field} (h : wfField f = true) : FieldOK f := by
  obtain ⟨hn, hv, hc⟩ := wfField_iff h
  obtain ⟨_, hsp, h58, h35, h10, _⟩ := wfName_iff hn
  obtain ⟨hv1, hv2, _⟩ := wfFirst_iff hv
  refine ⟨⟨trimSpace_of_noSpace hsp, h58, h10, h35⟩, ⟨hv1, hv2⟩, fun l hl => ?_⟩
  obtain ⟨h1, h2, _, h4⟩ := wfCont_iff (hc l hl)
  exact ⟨h1, h2, h4⟩

theorem paraOK_of_wfPara {p : Para} (h : wfPara p = true) : ParaOK p := by
  obtain ⟨hne, hf, hnd⟩ := wfPara_iff h
  exact ⟨hne, nodup_of_nodupNames hnd, fun f hf' => fieldOK_of_wfField (hf f hf')⟩

/-! ### single lines of the grammar -/

theorem sp_eol {e : Bytes} (he : Eol e) : Sp e := by
  rcases he with rfl | rfl <;> decide

/-- every alternative of `trailing`, ASCII or Unicode, is a run of white-space runes for
    the left-to-right decoder … -/
theorem sp_trail {t : Bytes} (ht : Trail t) : Sp t :=
  (by decide : ∀ t ∈ trailAlts, Sp t) t ht

/-- … and is removed, rune by rune from the right, behind any string that does not itself
    end in a white-space rune: the multi-byte alternatives are still decoded as their rune
    from the right, whatever bytes precede them. -/
theorem trimRightSpace_append_trail {c t : Bytes} (hc : trimRightSpace c = c) (ht : Trail t) :
    trimRightSpace (c ++ t) = c := by
  rw [trimRightSpace_append_sp (sp_trail ht), hc]

/-- the same in front of a line terminator (LF, or CR LF) -/
theorem trimRightSpace_append_trail_eol {c t e : Bytes} (hc : trimRightSpace c = c)
    (ht : Trail t) (he : Eol e) : trimRightSpace (c ++ (t ++ e)) = c := by
  rw [trimRightSpace_append_sp (sp_append (sp_trail ht) (sp_eol he)), hc]

theorem sp_pad {t : Bytes} (ht : Pad t) : Sp t := by
  rcases ht with rfl | rfl | rfl | rfl <;> decide

/-- the white space behind a value starts with a complete rune: an ASCII byte or the start
    byte of a multi-byte rune -/
theorem head_trail_eol {t e : Bytes} (ht : Trail t) (he : Eol e) :
    ∀ a ∈ (t ++ e).head?, NonCont a :=
  (by decide : ∀ t ∈ trailAlts, ∀ e ∈ [[10], [13, 10]], ∀ a ∈ (t ++ e).head?, NonCont a) t ht e
    (by rcases he with rfl | rfl <;> simp)

theorem classify_contC {x c e : Bytes} (hc : ContC x c) (hx : ContOK x) (he : Eol e) :
    classify (c ++ e) = .cont x := by
  obtain ⟨m, t, hm, ht, rfl⟩ := hc
  obtain ⟨hx1, _, hx46⟩ := hx
  have hb : trimRightSpace (if x.isEmpty then [46] else x) = if x.isEmpty then [46] else x := by
    split
    · decide
    · exact hx1
  rw [List.cons_append, classify_cont_line hm]
  -- the text read back: the body without the white space behind it, `.` standing for nothing
  simp only [contOf, List.drop_succ_cons, List.drop_zero, List.append_assoc,
    trimRightSpace_append_trail_eol hb ht he]
  by_cases hxe : x = []
  · subst hxe
    rfl
  · simp [hxe, hx46]

theorem trimSpace_value {v pad t e : Bytes} (hv1 : trimSpace v = v) (hp : Pad pad)
    (ht : Trail t) (he : Eol e) :
    trimSpace ((if v.isEmpty then [] else pad) ++ v ++ t ++ e) = v := by
  have hsp : Sp (t ++ e) := sp_append (sp_trail ht) (sp_eol he)
  by_cases hve : v = []
  · subst hve
    simpa using trimSpace_of_sp hsp
  · rw [if_neg (by simpa using hve), List.append_assoc (pad ++ v)]
    exact trimSpace_wrap_ends_nonCont (sp_pad hp) hsp (head_trail_eol ht he) hve
      (ends_of_trimmed hv1).1 (ends_of_trimmed hv1).2

theorem classify_fieldC {f : Field} {c e : Bytes} (hc : FieldC f c) (hf : FieldOK f)
    (he : Eol e) : classify (c ++ e) = .field f.name f.first := by
  obtain ⟨⟨hn, h58, _, h35⟩, ⟨hv, _⟩, _⟩ := hf
  obtain ⟨pad, t, hp, ht, rfl⟩ := hc
  -- a trimmed name does not start with blank or tab
  have hhead : ∀ a ∈ f.name.head?, a ≠ 35 ∧ a ≠ 32 ∧ a ≠ 9 := by
    have h0 := (ends_of_trimmed hn).1
    intro a ha
    cases hnm : f.name with
    | nil => rw [hnm] at ha; cases ha
    | cons b r =>
      rw [hnm] at ha h0 h35
      cases ha
      refine ⟨fun e => h35 (by rw [e]; rfl), ?_, ?_⟩ <;> (rintro rfl; simp [spaceLen] at h0)
  have hline : f.name ++ [58] ++ (if f.first.isEmpty then [] else pad) ++ f.first ++ t ++ e
      = f.name ++ 58 :: ((if f.first.isEmpty then [] else pad) ++ f.first ++ t ++ e) := by simp
  rw [hline, classify_field_line h58 hhead, hn, trimSpace_value hv hp ht he, if_neg]
  cases hnm : f.name with
  | nil => simp [hasPrefix, isPrefix]
  | cons a r => simpa [hasPrefix_cons_singleton] using Ne.symm (hhead a (by simp [hnm])).1

/-! ### the value of a field -/

theorem foldl_contStep_nl (xs : List Bytes) (y : Bytes) :
    xs.foldl contStep (y ++ [10]) = y ++ [10] ++ (xs.map (· ++ [10])).flatten := by
  induction xs generalizing y with
  | nil => simp
  | cons x xs ih =>
    have : contStep (y ++ [10]) x = (y ++ [10] ++ x) ++ [10] := by
      simp [contStep, hasSuffix_append_singleton]
    rw [List.foldl_cons, this, ih]
    simp

theorem foldl_contStep_value (f : Field) (hv10 : 10 ∉ f.first) :
    f.conts.foldl contStep f.first = expectedValue f := by
  unfold expectedValue
  cases hc : f.conts with
  | nil => simp
  | cons x xs =>
    have h1 : contStep f.first x =
        ((if f.first.isEmpty then [] else f.first ++ [10]) ++ x) ++ [10] := by
      by_cases hve : f.first = [] <;> simp [contStep, hve, hasSuffix_of_not_mem hv10]
    rw [List.foldl_cons, h1, foldl_contStep_nl]
    simp

/-! ### the lines of a field, of a paragraph -/

theorem conts_read {xs cl : List Bytes} (hc : ContsC xs cl) (hwf : ∀ x ∈ xs, ContOK x)
    {E : Nat → Bytes} (hE : AllEol E) (rest : List Bytes) (o : List Bytes) (ho : o ≠ [])
    (k : Bytes) (m : List (Bytes × Bytes)) (cur : Bytes) :
    nextAux (lines cl E ++ rest) ⟨o, insert k cur m⟩ k =
      nextAux rest ⟨o, insert k (xs.foldl contStep cur) m⟩ k := by
  induction hc generalizing E cur with
  | nil => rfl
  | comment hcm _ ih =>
    obtain ⟨r, rfl⟩ := hcm
    rw [lines, List.cons_append, nextAux_cons, List.cons_append, classify_comment]
    exact ih hwf (hE.shift 1) cur
  | cons hx _ ih =>
    rw [lines, List.cons_append, nextAux_cons, classify_contC hx (hwf _ (by simp)) (hE 0)]
    simp only [if_neg ho, get_insert_self, insert_insert]
    exact ih (fun y hy => hwf y (List.mem_cons_of_mem _ hy)) (hE.shift 1) _

theorem field_read {f : Field} {cl : List Bytes} (hc : FieldLC f cl) (hf : FieldOK f)
    {E : Nat → Bytes} (hE : AllEol E) (rest : List Bytes) (o : List Bytes)
    (m : List (Bytes × Bytes)) (hm : lookup f.name m = none) (lk : Bytes) :
    nextAux (lines cl E ++ rest) ⟨o, m⟩ lk =
      nextAux rest ⟨o ++ [f.name], insert f.name (expectedValue f) m⟩ f.name := by
  induction hc generalizing E with
  | comment hcm _ ih =>
    obtain ⟨r, rfl⟩ := hcm
    rw [lines, List.cons_append, nextAux_cons, List.cons_append, classify_comment]
    exact ih (hE.shift 1)
  | line hl hcs' =>
    rw [lines, List.cons_append, nextAux_cons, classify_fieldC hl hf (hE 0)]
    simp only [set_eq, hm, Option.isSome_none, Bool.false_eq_true, if_false]
    rw [conts_read hcs' hf.2.2 (hE.shift 1) rest _ (by simp), foldl_contStep_value f hf.2.1.2]

theorem para_read {fs : Para} {cl : List Bytes} (hc : ParaC fs cl)
    (hwf : ∀ f ∈ fs, FieldOK f) (hnd : (fs.map (·.name)).Nodup)
    {E : Nat → Bytes} (hE : AllEol E) (rest : List Bytes) (o : List Bytes)
    (m : List (Bytes × Bytes)) (hm : ∀ f ∈ fs, lookup f.name m = none) (lk : Bytes) :
    ∃ lk', nextAux (lines cl E ++ rest) ⟨o, m⟩ lk =
      nextAux rest ⟨o ++ fs.map (·.name),
        fs.foldl (fun acc f => insert f.name (expectedValue f) acc) m⟩ lk' := by
  induction hc generalizing E o m lk with
  | nil => exact ⟨lk, by simp [lines]⟩
  | @cons f fs a b hf _ ih =>
    obtain ⟨hn, hnd'⟩ := List.nodup_cons.mp hnd
    rw [lines_append, List.append_assoc,
      field_read hf (hwf f (by simp)) hE _ o m (hm f (by simp)) lk]
    obtain ⟨lk', h⟩ := ih (fun g hg => hwf g (List.mem_cons_of_mem _ hg)) hnd' (hE.shift a.length)
      (o ++ [f.name]) (insert f.name (expectedValue f) m) (fun g hg => by
        have hne : f.name ≠ g.name := fun e => hn (List.mem_map.mpr ⟨g, hg, e.symm⟩)
        rw [lookup_insert, if_neg hne]
        exact hm g (List.mem_cons_of_mem _ hg)) f.name
    exact ⟨lk', by rw [h]; simp⟩

/-- where `Next` stops: at the end of the input or at an empty line -/
def Stop (rest : List Bytes) : Prop := ∀ e ∈ rest.head?, Eol e

theorem nextAux_stop {rest : List Bytes} (h : Stop rest) {p : Paragraph} (hp : p.order ≠ [])
    (lk : Bytes) : nextAux rest p lk = .para p (rest.drop 1) := by
  cases rest with
  | nil => rw [nextAux_nil, if_neg hp]; rfl
  | cons e rest =>
    rw [nextAux_cons, classify_blank (h e rfl)]
    simp only [if_neg hp]
    rfl

theorem next_para_lines {p : Para} {cl : List Bytes} (hc : ParaC p cl) (hwf : ParaOK p)
    {E : Nat → Bytes} (hE : AllEol E) {rest : List Bytes} (hr : Stop rest) :
    next (lines cl E ++ rest) = .para (expectedPara p) (rest.drop 1) := by
  obtain ⟨hne, hnd, hf⟩ := hwf
  obtain ⟨lk', h⟩ := para_read hc hf hnd hE rest [] [] (fun _ _ => rfl) []
  exact h.trans (nextAux_stop hr (p := expectedPara p) (by simpa [expectedPara] using hne) lk')

/-! ### runs of empty lines, documents -/

theorem next_skip_blanks (n : Nat) {E : Nat → Bytes} (hE : AllEol E) (rest : List Bytes) :
    next (lines (List.replicate n []) E ++ rest) = next rest := by
  induction n generalizing E with
  | zero => rfl
  | succ n ih =>
    rw [List.replicate_succ, lines, List.cons_append, next, nextAux_cons, List.nil_append,
      classify_blank (hE 0)]
    exact ih (hE.shift 1)

theorem reads_skip_blanks (n : Nat) {E : Nat → Bytes} (hE : AllEol E) {rest : List Bytes}
    {ps : List Paragraph} (h : Reads rest ps) :
    Reads (lines (List.replicate n []) E ++ rest) ps := by
  cases h with
  | eof h => exact .eof (by rw [next_skip_blanks n hE, h])
  | para h h' => exact .para (by rw [next_skip_blanks n hE, h]) h'

theorem reads_blanks (n : Nat) {E : Nat → Bytes} (hE : AllEol E) :
    Reads (lines (List.replicate n []) E) [] := by
  have := reads_skip_blanks n hE (.eof (ls := []) rfl)
  rwa [List.append_nil] at this

/-- the lines of a document body, in front of lines that end the last paragraph and hold no
    further one -/
theorem body_read {d : Doc} {cl : List Bytes} (hc : BodyC d cl) (hwf : ∀ p ∈ d, ParaOK p)
    {E : Nat → Bytes} (hE : AllEol E) {tail : List Bytes} (ht : Stop tail)
    (hr : Reads (tail.drop 1) []) : Reads (lines cl E ++ tail) (d.map expectedPara) := by
  induction hc generalizing E with
  | one hp => exact .para (next_para_lines hp (hwf _ (by simp)) hE ht) hr
  | @cons p q d a b n hp _ ih =>
    rw [List.append_assoc, lines_append, lines_append, List.append_assoc, List.append_assoc]
    refine .para (next_para_lines hp (hwf p (by simp)) hE
      (fun e he => (Option.some.inj he) ▸ hE _)) ?_
    exact reads_skip_blanks n ((hE.shift _).shift 1)
      (ih (fun r hr => hwf r (List.mem_cons_of_mem _ hr)) ((hE.shift _).shift _))

theorem all_read_render (d : Doc) (cs : Choices) (h : wfDoc d = true) :
    all (render d cs) = .ok (d.map expectedPara) := by
  have hwf : ∀ p ∈ d, ParaOK p := fun p hp =>
    paraOK_of_wfPara ((by simpa [wfDoc] using h : ∀ p ∈ d, wfPara p = true) p hp)
  obtain ⟨n0, n1, cl, E, hE, hl, hd⟩ := physLines_render d cs h
  rw [all_ok_iff, hl, List.append_assoc, lines_append]
  apply reads_skip_blanks n0 hE
  rcases hd with ⟨rfl, rfl⟩ | hb
  · exact reads_blanks n1 (hE.shift _)
  · rw [lines_append]
    refine body_read hb hwf (hE.shift _) ?_ ?_
    · cases n1 with
      | zero => exact fun _ he => nomatch he
      | succ n1 => exact fun e he => (Option.some.inj he) ▸ hE _
    · cases n1 with
      | zero => exact .eof rfl
      | succ n1 => exact reads_blanks n1 (((hE.shift _).shift _).shift 1)

end GoDebian.Lemmas.Deb822ReadNext

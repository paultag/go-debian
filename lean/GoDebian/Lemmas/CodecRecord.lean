/-
  C09 lemmas on whole records: the decoder is field-wise like the marshaller
  (`decodeStruct p s [] = mapRes (decodeField p) s`) and looks at the paragraph only through
  `lookup f.key p.values`.  So any paragraph that holds under each key what reads like the
  stored rendering decodes to the same record (`roundtrip_of_lookup`).
-/
import GoDebian.Model.Codec
import GoDebian.Spec.Codec
import GoDebian.Lemmas.CodecConvert
import GoDebian.Lemmas.Deb822WriteDoc

namespace GoDebian.Lemmas.Codec
open GoDebian GoDebian.Deb822 GoDebian.Codec GoDebian.Spec.Codec

/-! ### the decoder, one field at a time -/

/-- one field of `decodeStruct` into an untouched struct (no plain nested struct) -/
def decodeField (p : Paragraph) (f : FieldDesc) : Res Val :=
  if f.key = [45] then .ok .zero
  else if f.anonymous then
    (match f.kind with
     | .para => decodeOpt f (.para p) (lookup f.key p.values)
     | _ => .ok .zero)
  else decodeOpt f .zero (lookup f.key p.values)

theorem decodeFields_cons_plain (fuel : Nat) (p : Paragraph) (f : FieldDesc) (fs : Schema)
    (hn : ∀ sub, f.kind ≠ .nested sub) :
    decodeFields (fuel+1) p (f :: fs) [] =
      match decodeField p f with
      | .error e => .error e
      | .ok v => (decodeFields fuel p fs []).map (v :: ·) := by
  rw [decodeFields]
  -- `simp` takes the alternative for kinds that are not `.nested`: it finds `hn`
  simp only [List.headD_nil, List.tail_nil]
  unfold decodeField decodeOpt
  by_cases h45 : f.key = [45]
  · rw [if_pos h45, if_pos h45]
  · rw [if_neg h45, if_neg h45]
    cases f.anonymous
    · rw [if_neg Bool.false_ne_true, if_neg Bool.false_ne_true]
      cases lookup f.key p.values with
      | none => cases f.required <;> rfl
      | some value => rfl
    · rw [if_pos rfl, if_pos rfl]
      cases f.kind <;> try rfl
      cases lookup f.key p.values with
      | none => cases f.required <;> rfl
      | some value => rfl

theorem decodeFields_eq_mapRes (p : Paragraph) : ∀ (s : Schema) (fuel : Nat),
    (∀ f ∈ s, ∀ sub, f.kind ≠ .nested sub) → s.length < fuel →
    decodeFields fuel p s [] = mapRes (decodeField p) s := by
  intro s
  induction s with
  | nil =>
    intro fuel _ h
    cases fuel with
    | zero => cases h
    | succ n =>
      rw [decodeFields]
      · rfl
      · exact nofun
  | cons f s ih =>
    intro fuel hn h
    cases fuel with
    | zero => cases h
    | succ n =>
      rw [decodeFields_cons_plain _ _ _ _ (hn f List.mem_cons_self),
        ih n (fun g hg => hn g (List.mem_cons_of_mem _ hg)) (by simpa using h)]
      cases hf : decodeField p f with
      | error e => rw [mapRes_cons_error hf]
      | ok v => rw [mapRes_cons_ok hf]

theorem decodeStruct_eq_mapRes {p : Paragraph} {s : Schema}
    (hn : ∀ f ∈ s, ∀ sub, f.kind ≠ .nested sub) (hlen : s.length < 100000) :
    decodeStruct p s [] = mapRes (decodeField p) s :=
  decodeFields_eq_mapRes p s _ hn hlen

/-! ### a required field that is missing -/

theorem decodeFields_required_missing (p : Paragraph) (f : FieldDesc) (hr : f.required = true)
    (hk : f.key ≠ [45]) (ha : f.anonymous = false) (hmiss : lookup f.key p.values = none)
    (s : Schema) : ∀ (fuel : Nat) (olds : List Val), f ∈ s →
      ∃ e, decodeFields fuel p s olds = .error e := by
  induction s with
  | nil => intro _ _ hf; cases hf
  | cons g fs ih =>
    intro fuel olds hf
    cases fuel with
    | zero => exact ⟨.fuel, by rw [decodeFields]⟩
    | succ fuel =>
      rw [decodeFields]
      rcases List.mem_cons.mp hf with rfl | hf'
      · simp only [hk, ha, hmiss, hr, if_false, if_true]
        split <;> exact ⟨_, rfl⟩
      · -- the rest fails, and every path ends there or in an earlier error
        obtain ⟨e, he⟩ := ih fuel olds.tail hf'
        simp only [he, Except.map]
        repeat' split
        all_goals exact ⟨_, rfl⟩

/-! ### flat schemas -/

theorem flatField_spec {f : FieldDesc} (hf : flatField f = true) :
    f.anonymous = false ∧ f.key ≠ [45] ∧ flatKind f.kind = true := by
  simp only [flatField, Bool.and_eq_true, Bool.not_eq_eq_eq_not, Bool.not_true, bne_iff_ne, ne_eq,
    Bool.or_eq_true] at hf
  exact ⟨hf.1.1.1, hf.1.1.2, hf.1.2⟩

theorem flatKind_plain {k : Kind} (h : flatKind k = true) (sub : List FieldDesc) :
    k ≠ .nested sub := by
  rintro rfl; cases h

theorem decodeField_flat {f : FieldDesc} (hf : flatField f = true) (p : Paragraph) :
    decodeField p f = decodeOpt f .zero (lookup f.key p.values) := by
  obtain ⟨ha, hk, _⟩ := flatField_spec hf
  simp only [decodeField, hk, ha, if_false, Bool.false_eq_true]

theorem flatSchema_spec {s : Schema} (hs : flatSchema s = true) :
    (∀ f ∈ s, flatField f = true) ∧ (∀ k, (knownKeys s).count k ≤ 1) ∧ s.length < 100000 := by
  simp only [flatSchema, Bool.and_eq_true, List.all_eq_true, decide_eq_true_eq] at hs
  exact ⟨hs.1.1, fun k => Nat.le_trans (count_knownKeys_le s k)
    (List.nodup_iff_count.mp (Lemmas.Deb822Write.nodup_of_nodupNames hs.1.2) k), hs.2⟩

theorem wfRec_spec : ∀ {s : Schema} {r : List Val}, wfRec s r →
    s.length = r.length ∧ ∀ fv ∈ s.zip r, wfVal fv.1 fv.2
  | [], [], _ => ⟨rfl, by simp⟩
  | [], _ :: _, h => by simp [wfRec] at h
  | _ :: _, [], h => by simp [wfRec] at h
  | f :: s, v :: r, h => by
    simp only [wfRec] at h
    obtain ⟨h1, h2⟩ := wfRec_spec h.2
    refine ⟨by simp [h1], fun fv hfv => ?_⟩
    rw [List.zip_cons_cons] at hfv
    rcases List.mem_cons.mp hfv with rfl | hfv
    · exact h.1
    · exact h2 fv hfv

/-! ### the round trip at the paragraph level -/

theorem sameRec_of_fields {g : FieldDesc → Res Val} : ∀ {s : Schema} {r : List Val},
    s.length = r.length →
    (∀ fv ∈ s.zip r, ∃ v', g fv.1 = .ok v' ∧ canon fv.1.kind fv.2 = canon fv.1.kind v') →
    ∃ r', mapRes g s = .ok r' ∧ SameRec s r r'
  | [], [], _, _ => ⟨[], rfl, trivial⟩
  | [], _ :: _, h, _ => by cases h
  | _ :: _, [], h, _ => by cases h
  | f :: s, v :: r, hlen, h => by
    obtain ⟨v', hv', hc⟩ := h (f, v) (by simp)
    obtain ⟨r', hr', hs⟩ := sameRec_of_fields (s := s) (r := r) (by simpa using hlen)
      (fun fv hfv => h fv (by rw [List.zip_cons_cons]; exact List.mem_cons_of_mem _ hfv))
    exact ⟨v' :: r', by rw [mapRes_cons_ok hv', hr']; rfl, hc, hs⟩

/-- the round trip for any paragraph that holds, under each field's key, what the decoder
    reads like the stored rendering (the paragraph written; the paragraph reread) -/
theorem roundtrip_of_lookup {s : Schema} {r : List Val} (hs : flatSchema s = true) (hr : wfRec s r)
    {q : Paragraph}
    (hq : ∀ fv ∈ s.zip r, ∀ data, marshalValue 16 fv.1.kind fv.1.delim fv.2 = .ok data →
      decodeOpt fv.1 .zero (lookup fv.1.key q.values) = decodeOpt fv.1 .zero (stored fv.1 data)) :
    ∃ r', decodeStruct q s [] = .ok r' ∧ SameRec s r r' := by
  obtain ⟨hflat, _, hlen⟩ := flatSchema_spec hs
  obtain ⟨hlr, hwf⟩ := wfRec_spec hr
  rw [decodeStruct_eq_mapRes (fun f hf => flatKind_plain (flatField_spec (hflat f hf)).2.2) hlen]
  refine sameRec_of_fields hlr fun fv hfv => ?_
  have hff := hflat _ (mem_zip_left hfv)
  obtain ⟨data, hm, hdec⟩ := field_lawful hff (hwf fv hfv)
  rw [decodeField_flat hff, hq fv hfv data hm]
  exact hdec

end GoDebian.Lemmas.Codec

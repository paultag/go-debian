-- Root of the `GoDebian` library (generated by tools/gen_root.sh).
import GoDebian.Base.Bytes
import GoDebian.Base.Path
import GoDebian.Base.Str
import GoDebian.Drv.Accessors
import GoDebian.Drv.Base
import GoDebian.Drv.BuildOrder
import GoDebian.Drv.Changelog
import GoDebian.Drv.Clearsign
import GoDebian.Drv.Codec
import GoDebian.Drv.Deb
import GoDebian.Drv.Deb822
import GoDebian.Drv.Dependency
import GoDebian.Drv.Hashio
import GoDebian.Drv.Upload
import GoDebian.Drv.Util
import GoDebian.Drv.Version
import GoDebian.Lemmas.ArBuild
import GoDebian.Lemmas.ArHeader
import GoDebian.Lemmas.ArIter
import GoDebian.Lemmas.ArSparse
import GoDebian.Lemmas.ArchIs
import GoDebian.Lemmas.ArchRoundTrip
import GoDebian.Lemmas.BuildOrder
import GoDebian.Lemmas.BuildOrderGraph
import GoDebian.Lemmas.BuildOrderSort
import GoDebian.Lemmas.Bytes
import GoDebian.Lemmas.ChangelogParse
import GoDebian.Lemmas.ChangelogRender
import GoDebian.Lemmas.ChangelogStr
import GoDebian.Lemmas.Clearsign
import GoDebian.Lemmas.CodecConvert
import GoDebian.Lemmas.CodecCustom
import GoDebian.Lemmas.CodecPara
import GoDebian.Lemmas.CodecPass
import GoDebian.Lemmas.CodecRecord
import GoDebian.Lemmas.CodecStr
import GoDebian.Lemmas.CodecText
import GoDebian.Lemmas.CodecValue
import GoDebian.Lemmas.Deb
import GoDebian.Lemmas.Deb822Next
import GoDebian.Lemmas.Deb822Para
import GoDebian.Lemmas.Deb822ReadLayout
import GoDebian.Lemmas.Deb822ReadLines
import GoDebian.Lemmas.Deb822ReadNext
import GoDebian.Lemmas.Deb822ReadStr
import GoDebian.Lemmas.Deb822Write
import GoDebian.Lemmas.Deb822WriteDoc
import GoDebian.Lemmas.Deb822WriteInv
import GoDebian.Lemmas.Deb822WriteStr
import GoDebian.Lemmas.DebBuild
import GoDebian.Lemmas.DepFixBasic
import GoDebian.Lemmas.DepFixCtl
import GoDebian.Lemmas.DepFixFix
import GoDebian.Lemmas.DepFixInv
import GoDebian.Lemmas.DepFixPoss
import GoDebian.Lemmas.DepFixRender
import GoDebian.Lemmas.DepFixTotal
import GoDebian.Lemmas.DepGrammarClause
import GoDebian.Lemmas.DepGrammarLex
import GoDebian.Lemmas.DepGrammarPoss
import GoDebian.Lemmas.DepGrammarReject
import GoDebian.Lemmas.DepGrammarShape
import GoDebian.Lemmas.DepGrammarTop
import GoDebian.Lemmas.DocsDecode
import GoDebian.Lemmas.DocsRead
import GoDebian.Lemmas.DocsStruct
import GoDebian.Lemmas.DocsText
import GoDebian.Lemmas.DocsValue
import GoDebian.Lemmas.Hashio
import GoDebian.Lemmas.Paths
import GoDebian.Lemmas.Res
import GoDebian.Lemmas.Str
import GoDebian.Lemmas.StrNum
import GoDebian.Lemmas.Upload
import GoDebian.Lemmas.VersionCompare
import GoDebian.Lemmas.VersionModel
import GoDebian.Lemmas.VersionOrd
import GoDebian.Lemmas.VersionParse
import GoDebian.Lemmas.VersionParseSpec
import GoDebian.Lemmas.VersionSpec
import GoDebian.Model.Accessors
import GoDebian.Model.Ar
import GoDebian.Model.BuildOrder
import GoDebian.Model.Changelog
import GoDebian.Model.Clearsign
import GoDebian.Model.Codec
import GoDebian.Model.Deb
import GoDebian.Model.Deb822
import GoDebian.Model.Dependency
import GoDebian.Model.Hashio
import GoDebian.Model.Upload
import GoDebian.Model.UploadPaths
import GoDebian.Model.Version
import GoDebian.Props.C01
import GoDebian.Props.C02
import GoDebian.Props.C03
import GoDebian.Props.C04
import GoDebian.Props.C05
import GoDebian.Props.C06
import GoDebian.Props.C07
import GoDebian.Props.C08
import GoDebian.Props.C09
import GoDebian.Props.C10
import GoDebian.Props.C11
import GoDebian.Props.C12
import GoDebian.Props.C13
import GoDebian.Props.C14
import GoDebian.Props.C15
import GoDebian.Props.C16
import GoDebian.Props.C17
import GoDebian.Props.C18
import GoDebian.Props.C19
import GoDebian.Props.C20
import GoDebian.Spec.Ar
import GoDebian.Spec.Arch
import GoDebian.Spec.Changelog
import GoDebian.Spec.Codec
import GoDebian.Spec.Deb822
import GoDebian.Spec.Deb822Write
import GoDebian.Spec.Dependency
import GoDebian.Spec.Docs
import GoDebian.Spec.DocsValue
import GoDebian.Spec.Version
import GoDebian.Spec.VersionParse
